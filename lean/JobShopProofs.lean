import JobShopProofs.Abstract.Basic
import JobShopProofs.Abstract.Final
import JobShopProofs.Abstract.Inv
import JobShopProofs.Abstract.Lemmas
import JobShopProofs.Abstract.Main
import JobShopProofs.Abstract.Move
import JobShopProofs.Abstract.Progress
import JobShopProofs.CompositeShape
import JobShopProofs.CompositeWorld
import JobShopProofs.CpLemmas
import JobShopProofs.EdgeType
import JobShopProofs.EnvEpisodes
import JobShopProofs.EnvInv
import JobShopProofs.EnvInv2
import JobShopProofs.EnvInv3
import JobShopProofs.EnvInv4
import JobShopProofs.EnvLemmas
import JobShopProofs.EnvReward
import JobShopProofs.FeatPosition
import JobShopProofs.FeatCompleted
import JobShopProofs.FeatEst
import JobShopProofs.FeatMachines
import JobShopProofs.FeatureLemmas
import JobShopProofs.FeatureShape
import JobShopProofs.FeatureSpecs
import JobShopProofs.FeatureWorldDefs
import JobShopProofs.FeatureWorldDispatch
import JobShopProofs.FeatureWorldReset
import JobShopProofs.FeatureWorldCtor
import JobShopProofs.FeatureWorld
import JobShopProofs.EstSemantics
import JobShopProofs.ResetFresh
import JobShopProofs.ResidualAnchors
import JobShopProofs.FramesWorld
import JobShopProofs.GraphEdges
import JobShopProofs.HistoryWorld
import JobShopProofs.Invariant
import JobShopProofs.MultiEnvFits
import JobShopProofs.ObserverScore
import JobShopProofs.OwnRecord
import JobShopProofs.Lemmas.Filters
import JobShopProofs.Lemmas.MinStart
import JobShopProofs.Properties.C01
import JobShopProofs.Properties.C02
import JobShopProofs.Properties.C03
import JobShopProofs.Properties.C04
import JobShopProofs.Properties.C05
import JobShopProofs.Properties.C06
import JobShopProofs.Properties.C07
import JobShopProofs.Properties.C08
import JobShopProofs.Properties.C09
import JobShopProofs.Properties.C10
import JobShopProofs.Properties.C11
import JobShopProofs.Properties.C11All
import JobShopProofs.Properties.C11World
import JobShopProofs.Properties.C12
import JobShopProofs.Properties.C13
import JobShopProofs.Properties.C14
import JobShopProofs.Properties.C15
import JobShopProofs.Properties.C16
import JobShopProofs.Properties.C16All
import JobShopProofs.Properties.C17
import JobShopProofs.Properties.C18
import JobShopProofs.Properties.C19
import JobShopProofs.Properties.C20
import JobShopProofs.QueriesSpec
import JobShopProofs.Reach
import JobShopProofs.Refine
import JobShopProofs.ResidualComplete
import JobShopProofs.ResidualWorld
import JobShopProofs.RewardWorld
import JobShopProofs.ScheduleDict
import JobShopProofs.SeqAccept
import JobShopProofs.SeqRebuild
import JobShopProofs.SolvedEdges
import JobShopProofs.WorldEdits
import JobShopProofs.WorldInv
import JobShopProofs.WorldLemmas
import JobShopProofs.ObserversTransparent
import JobShopProofs.EnvRejected
import JobShopProofs.LateReward
import JobShopProofs.EnvOptimum
import JobShopProofs.MultiEnvRewards
import JobShopProofs.Unsubscribed
import JobShopProofs.Properties.C10All
import JobShopProofs.Properties.C17All
import JobShopProofs.Properties.C18All
import JobShopProofs.Properties.C19All
import JobShopProofs.LateAttach
import JobShopProofs.GenRefusal
