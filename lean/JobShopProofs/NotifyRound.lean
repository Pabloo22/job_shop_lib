/-!
One notification round of the dispatcher (`Dispatcher._update_tracking_attributes` / `Dispatcher.reset`) in which observers may
change the subscriber list from inside their callbacks.

Before the repair the loop `for subscriber in self.subscribers: subscriber.update(op)` walked the LIVE list (an index loop over the
current contents), while `unsubscribe` removed in place; after the repair `subscribe` / `unsubscribe` build a NEW list, so the loop
walks the list object it started with (a snapshot).  `liveRound` models the former, `snapRound` the latter.
-/

namespace JS.Notify

abbrev Id := Nat

/-- what an observer does to the subscriber list when it is called: a function of its own id and the current list (it may remove
itself, remove or add others) -/
abbrev Callback := Id → List Id → List Id

/-- the repaired loop: the snapshot taken at the start is walked; callbacks act on the current list -/
def snapRound (cb : Callback) : List Id → List Id → List Id × List Id
  | [], cur => ([], cur)
  | o :: rest, cur =>
    let cur' := cb o cur
    let (ns, fin) := snapRound cb rest cur'
    (o :: ns, fin)

/-- the old loop: index-based over the live list (fuel = an upper bound on the number of iterations) -/
def liveRound (cb : Callback) : Nat → Nat → List Id → List Id × List Id
  | 0, _, cur => ([], cur)
  | fuel + 1, i, cur =>
    match cur[i]? with
    | none => ([], cur)
    | some o =>
      let cur' := cb o cur
      let (ns, fin) := liveRound cb fuel (i + 1) cur'
      (o :: ns, fin)

/-- the callback of a one-shot observer `k`: it removes itself; everybody else leaves the list alone -/
def oneShot (k : Id) : Callback := fun o cur => if o = k then cur.erase k else cur

theorem snapRound_nil (cb : Callback) (cur : List Id) : snapRound cb [] cur = ([], cur) := rfl

theorem snapRound_cons (cb : Callback) (o : Id) (rest cur : List Id) :
    snapRound cb (o :: rest) cur = (o :: (snapRound cb rest (cb o cur)).1, (snapRound cb rest (cb o cur)).2) := rfl

theorem liveRound_zero (cb : Callback) (i : Nat) (cur : List Id) : liveRound cb 0 i cur = ([], cur) := rfl

theorem liveRound_none (cb : Callback) (fuel i : Nat) (cur : List Id) (h : cur[i]? = none) :
    liveRound cb (fuel + 1) i cur = ([], cur) := by
  simp only [liveRound, h]

theorem liveRound_some (cb : Callback) (fuel i : Nat) (cur : List Id) (o : Id) (h : cur[i]? = some o) :
    liveRound cb (fuel + 1) i cur
      = (o :: (liveRound cb fuel (i + 1) (cb o cur)).1, (liveRound cb fuel (i + 1) (cb o cur)).2) := by
  simp only [liveRound, h]

/-- (1) repaired semantics: whatever the callbacks do to the list, exactly the subscribers present at the start are notified, each
once, in subscription order -/
theorem C10_snapRound_notifies_snapshot (cb : Callback) (subs cur : List Id) : (snapRound cb subs cur).1 = subs := by
  induction subs generalizing cur with
  | nil => rfl
  | cons o rest ih => simp only [snapRound_cons, ih]

/-- (2) … and the final list is the callbacks' doing alone (the fold of the callbacks over the snapshot) -/
theorem C10_snapRound_final (cb : Callback) (subs cur : List Id) :
    (snapRound cb subs cur).2 = subs.foldl (fun l o => cb o l) cur := by
  induction subs generalizing cur with
  | nil => rfl
  | cons o rest ih => simp only [snapRound_cons, ih, List.foldl_cons]

theorem liveRound_stable (cb : Callback) (fuel i : Nat) (cur : List Id)
    (hq : ∀ o, o ∈ cur.drop i → cb o cur = cur) (hf : cur.length < fuel + i) :
    liveRound cb fuel i cur = (cur.drop i, cur) := by
  induction fuel generalizing i with
  | zero =>
    have : cur.drop i = [] := List.drop_eq_nil_of_le (by omega)
    simp only [liveRound_zero, this]
  | succ fuel ih =>
    by_cases hi : i < cur.length
    · have hget : cur[i]? = some cur[i] := List.getElem?_eq_getElem hi
      have hdrop : cur.drop i = cur[i] :: cur.drop (i + 1) := List.drop_eq_getElem_cons hi
      have hcb : cb cur[i] cur = cur := hq _ (by rw [hdrop]; exact List.mem_cons_self)
      have hq' : ∀ o, o ∈ cur.drop (i + 1) → cb o cur = cur := by
        intro o ho
        exact hq o (by rw [hdrop]; exact List.mem_cons_of_mem _ ho)
      rw [liveRound_some cb fuel i cur _ hget, hcb, ih (i + 1) hq' (by omega), hdrop]
    · have hget : cur[i]? = none := List.getElem?_eq_none (by omega)
      have : cur.drop i = [] := List.drop_eq_nil_of_le (by omega)
      rw [liveRound_none cb fuel i cur hget, this]

/-- (3) when no callback touches the list, the old loop does the same as the repaired one (the two semantics differ only under
re-entrant changes) -/
theorem C10_liveRound_quiet (subs : List Id) : liveRound (fun _ l => l) (subs.length + 1) 0 subs = (subs, subs) := by
  have h := liveRound_stable (fun _ l => l) (subs.length + 1) 0 subs (fun _ _ => rfl) (by omega)
  simpa using h

theorem oneShot_ne (k o : Id) (cur : List Id) (h : o ≠ k) : oneShot k o cur = cur := by
  simp only [oneShot, if_neg h]

theorem oneShot_self (k : Id) (cur : List Id) : oneShot k k cur = cur.erase k := by
  simp only [oneShot, if_true]

theorem liveRound_oneShot_after (k : Id) (fuel i : Nat) (cur : List Id) (hk : k ∉ cur) (hf : cur.length < fuel + i) :
    liveRound (oneShot k) fuel i cur = (cur.drop i, cur) := by
  apply liveRound_stable _ _ _ _ _ hf
  intro o ho
  apply oneShot_ne
  intro h
  exact hk (h ▸ List.mem_of_mem_drop ho)

theorem erase_mid (pre : List Id) (k : Id) (rest : List Id) (hk : k ∉ pre) :
    (pre ++ k :: rest).erase k = pre ++ rest := by
  rw [List.erase_append_right _ hk, List.erase_cons_head]

/-- the old loop from any position up to the one-shot observer `k`: the subscribers before `k` and `k` itself are notified, then
`k` leaves, the index moves on past the subscriber that has just slid into `k`'s place, and the rest `post` is notified -/
theorem liveRound_oneShot_upto (pre : List Id) (k nxt : Id) (post : List Id) (hnd : (pre ++ k :: nxt :: post).Nodup)
    (fuel i : Nat) (hi : i ≤ pre.length) (hf : (pre ++ k :: nxt :: post).length < fuel + i) :
    liveRound (oneShot k) fuel i (pre ++ k :: nxt :: post) = (pre.drop i ++ k :: post, pre ++ nxt :: post) := by
  have hkpre : k ∉ pre := by
    intro h
    have := (List.nodup_append.1 hnd).2.2 k h k List.mem_cons_self
    exact this rfl
  have hktail : k ∉ nxt :: post := by
    have := (List.nodup_append.1 hnd).2.1
    exact (List.nodup_cons.1 this).1
  induction fuel generalizing i with
  | zero => simp only [List.length_append, List.length_cons] at hf; omega
  | succ fuel ih =>
    by_cases hlt : i < pre.length
    · have hget : (pre ++ k :: nxt :: post)[i]? = some pre[i] := by
        rw [List.getElem?_append_left hlt, List.getElem?_eq_getElem hlt]
      have hne : pre[i] ≠ k := fun h => hkpre (h ▸ List.getElem_mem hlt)
      have hdrop : pre.drop i = pre[i] :: pre.drop (i + 1) := List.drop_eq_getElem_cons hlt
      rw [liveRound_some _ fuel i _ _ hget, oneShot_ne k _ _ hne, ih (i + 1) (by omega) (by omega), hdrop]
      rfl
    · have hieq : i = pre.length := by omega
      subst hieq
      have hget : (pre ++ k :: nxt :: post)[pre.length]? = some k := by
        rw [List.getElem?_append_right (Nat.le_refl _)]
        simp
      have hk' : k ∉ pre ++ nxt :: post := by
        intro h
        rcases List.mem_append.1 h with h | h
        · exact hkpre h
        · exact hktail h
      have hlen : (pre ++ nxt :: post).length < fuel + (pre.length + 1) := by
        simp only [List.length_append, List.length_cons] at hf ⊢
        omega
      have hdrop : (pre ++ nxt :: post).drop (pre.length + 1) = post := by
        rw [List.drop_append]
        simp
      rw [liveRound_some _ fuel _ _ _ hget, oneShot_self, erase_mid pre k _ hkpre,
        liveRound_oneShot_after k fuel _ _ hk' hlen, hdrop]
      simp

theorem liveRound_oneShot_eq (pre : List Id) (k nxt : Id) (post : List Id) (hnd : (pre ++ k :: nxt :: post).Nodup) :
    liveRound (oneShot k) ((pre ++ k :: nxt :: post).length + 1) 0 (pre ++ k :: nxt :: post)
      = (pre ++ k :: post, pre ++ nxt :: post) := by
  have h := liveRound_oneShot_upto pre k nxt post hnd ((pre ++ k :: nxt :: post).length + 1) 0 (Nat.zero_le _) (by omega)
  simpa using h

/-- (4) the defect: under the old loop a one-shot observer makes the NEXT subscriber miss the notification - for EVERY
duplicate-free list with the one-shot observer `k` somewhere before the end, the subscriber right after `k` is not notified although
it stays subscribed -/
theorem C10_liveRound_skips_next (pre : List Id) (k nxt : Id) (post : List Id) (hnd : (pre ++ k :: nxt :: post).Nodup) :
    let subs := pre ++ k :: nxt :: post
    nxt ∉ (liveRound (oneShot k) (subs.length + 1) 0 subs).1 ∧ nxt ∈ (liveRound (oneShot k) (subs.length + 1) 0 subs).2 := by
  intro subs
  show nxt ∉ (liveRound (oneShot k) ((pre ++ k :: nxt :: post).length + 1) 0 (pre ++ k :: nxt :: post)).1 ∧ _
  rw [liveRound_oneShot_eq pre k nxt post hnd]
  obtain ⟨_, htail, hdisj⟩ := List.nodup_append.1 hnd
  obtain ⟨hk, hn⟩ := List.nodup_cons.1 htail
  refine ⟨fun h => ?_, List.mem_append_right _ List.mem_cons_self⟩
  rcases List.mem_append.1 h with h | h
  · exact hdisj nxt h nxt (List.mem_cons_of_mem _ List.mem_cons_self) rfl
  · rcases List.mem_cons.1 h with rfl | h
    · exact hk List.mem_cons_self
    · exact (List.nodup_cons.1 hn).1 h

theorem foldl_oneShot_not_mem (k : Id) (l cur : List Id) (hk : k ∉ l) :
    l.foldl (fun c o => oneShot k o c) cur = cur := by
  induction l generalizing cur with
  | nil => rfl
  | cons o rest ih =>
    have ho : o ≠ k := fun e => hk (e ▸ List.mem_cons_self)
    have hr : k ∉ rest := fun h => hk (List.mem_cons_of_mem _ h)
    rw [List.foldl_cons, oneShot_ne k o cur ho, ih cur hr]

theorem foldl_oneShot_mem (k : Id) (l cur : List Id) (hk : k ∈ l) (hnd : l.Nodup) :
    l.foldl (fun c o => oneShot k o c) cur = cur.erase k := by
  induction l generalizing cur with
  | nil => exact absurd hk List.not_mem_nil
  | cons o rest ih =>
    have hnd' := List.nodup_cons.1 hnd
    by_cases ho : o = k
    · subst ho
      rw [List.foldl_cons, oneShot_self, foldl_oneShot_not_mem o rest _ hnd'.1]
    · have hr : k ∈ rest := by
        rcases List.mem_cons.1 hk with e | h
        · exact absurd e.symm ho
        · exact h
      rw [List.foldl_cons, oneShot_ne k o cur ho, ih cur hr hnd'.2]

/-- (5) under the repaired loop the same observer harms nobody: everybody is notified, and only `k` has left -/
theorem C10_snapRound_oneShot (subs : List Id) (k : Id) (hk : k ∈ subs) (hnd : subs.Nodup) :
    (snapRound (oneShot k) subs subs).1 = subs ∧ (snapRound (oneShot k) subs subs).2 = subs.erase k := by
  refine ⟨C10_snapRound_notifies_snapshot _ _ _, ?_⟩
  rw [C10_snapRound_final]
  exact foldl_oneShot_mem k subs subs hk hnd

/-! the concrete episode of the finding -/

example : (liveRound (oneShot 7) 10 0 [7, 1, 2]).1 = [7, 2] := by decide +kernel
example : (liveRound (oneShot 7) 10 0 [7, 1, 2]).2 = [1, 2] := by decide +kernel
example : (snapRound (oneShot 7) [7, 1, 2] [7, 1, 2]).1 = [7, 1, 2] := by decide +kernel
example : (snapRound (oneShot 7) [7, 1, 2] [7, 1, 2]).2 = [1, 2] := by decide +kernel

end JS.Notify
