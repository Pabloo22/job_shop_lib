import JobShopProofs.GraphStage
import JobShopProofs.CpLemmas
import JobShopProofs.FeatureSpecs
/-!
# C16 — each graph builder yields exactly the edges its definition prescribes

For each of the four builders the edge list of the built graph is characterised by a specification predicate that is
written from the instance alone (`DisjEdgeSpec`, `AgentTaskEdgeSpec`, `AgentTaskJobsEdgeSpec`,
`CompleteAgentTaskEdgeSpec`).  Every phase of a builder is rewritten as one fold of `add_edge` calls over an explicit
list of pairs, the members of that list are characterised, and `stage_fold` gives the typed-edge relation after the phase.
-/
namespace JS

def bothDir (L : List (Nat × Nat)) : List (Nat × Nat) := L.flatMap fun ab => [(ab.1, ab.2), (ab.2, ab.1)]

theorem mem_bothDir (L : List (Nat × Nat)) (u v : Nat) : (u, v) ∈ bothDir L ↔ (u, v) ∈ L ∨ (v, u) ∈ L := by
  simp only [bothDir, List.mem_flatMap, List.mem_cons, Prod.mk.injEq, List.not_mem_nil, or_false]
  constructor
  · rintro ⟨⟨a, b⟩, hab, (⟨rfl, rfl⟩ | ⟨rfl, rfl⟩)⟩
    · exact Or.inl hab
    · exact Or.inr hab
  · rintro (h | h)
    · exact ⟨(u, v), h, Or.inl ⟨rfl, rfl⟩⟩
    · exact ⟨(v, u), h, Or.inr ⟨rfl, rfl⟩⟩

theorem mem_bothDir_hub {α} (c : Nat) (f : α → Nat) (l : List α) (u v : Nat) :
    (u, v) ∈ bothDir (l.map fun a => (c, f a)) ↔ ∃ a ∈ l, (u = c ∧ v = f a) ∨ (u = f a ∧ v = c) := by
  simp only [mem_bothDir, List.mem_map, Prod.mk.injEq]
  constructor
  · rintro (⟨a, ha, rfl, rfl⟩ | ⟨a, ha, rfl, rfl⟩)
    · exact ⟨a, ha, Or.inl ⟨rfl, rfl⟩⟩
    · exact ⟨a, ha, Or.inr ⟨rfl, rfl⟩⟩
  · rintro ⟨a, ha, (⟨rfl, rfl⟩ | ⟨rfl, rfl⟩)⟩
    · exact Or.inl ⟨a, ha, rfl, rfl⟩
    · exact Or.inr ⟨a, ha, rfl, rfl⟩

theorem mem_bothDir_star (c : Nat) (l : List Nat) (u v : Nat) :
    (u, v) ∈ bothDir (l.map fun o => (c, o)) ↔ ∃ o ∈ l, (u = c ∧ v = o) ∨ (u = o ∧ v = c) :=
  mem_bothDir_hub c id l u v

theorem foldl_addBoth (t : EType) (L : List (Nat × Nat)) (g : Graph) :
    L.foldl (fun g ab => addBoth g ab.1 ab.2 t) g = (bothDir L).foldl (fun g xy => g.addEdge xy.1 xy.2 t) g := by
  unfold bothDir
  rw [List.foldl_flatMap]
  rfl

theorem mem_pairs_cons {α} (x : α) (l : List α) (a b : α) :
    (a, b) ∈ pairs (x :: l) ↔ (a = x ∧ b ∈ l) ∨ (a, b) ∈ pairs l := by
  simp only [pairs, List.mem_append, List.mem_map, Prod.mk.injEq]
  constructor
  · rintro (⟨c, hc, rfl, rfl⟩ | h)
    · exact Or.inl ⟨rfl, hc⟩
    · exact Or.inr h
  · rintro (⟨rfl, hb⟩ | h)
    · exact Or.inl ⟨b, hb, rfl, rfl⟩
    · exact Or.inr h

theorem mem_pairs_sym {α} : ∀ (l : List α), l.Nodup → ∀ (a b : α),
    ((a, b) ∈ pairs l ∨ (b, a) ∈ pairs l) ↔ (a ∈ l ∧ b ∈ l ∧ a ≠ b)
  | [], _, a, b => by simp [pairs]
  | x :: l, hn, a, b => by
    rw [List.nodup_cons] at hn
    rw [mem_pairs_cons, mem_pairs_cons]
    have ih := mem_pairs_sym l hn.2 a b
    simp only [List.mem_cons]
    constructor
    · rintro ((⟨rfl, hb⟩ | h) | (⟨rfl, ha⟩ | h))
      · exact ⟨Or.inl rfl, Or.inr hb, fun e => hn.1 (e ▸ hb)⟩
      · obtain ⟨h1, h2, h3⟩ := ih.1 (Or.inl h); exact ⟨Or.inr h1, Or.inr h2, h3⟩
      · exact ⟨Or.inr ha, Or.inl rfl, fun e => hn.1 (e ▸ ha)⟩
      · obtain ⟨h1, h2, h3⟩ := ih.1 (Or.inr h); exact ⟨Or.inr h1, Or.inr h2, h3⟩
    · rintro ⟨(rfl | ha), (rfl | hb), hne⟩
      · exact absurd rfl hne
      · exact Or.inl (Or.inl ⟨rfl, hb⟩)
      · exact Or.inr (Or.inl ⟨rfl, ha⟩)
      · rcases ih.2 ⟨ha, hb, hne⟩ with h | h
        · exact Or.inl (Or.inr h)
        · exact Or.inr (Or.inr h)

theorem mem_bothDir_pairs (l : List Nat) (hn : l.Nodup) (u v : Nat) :
    (u, v) ∈ bothDir (pairs l) ↔ (u ∈ l ∧ v ∈ l ∧ u ≠ v) := by
  rw [mem_bothDir, mem_pairs_sym l hn]

theorem getElem?_map_range {α} (f : Nat → α) (n k : Nat) (a : α) :
    ((List.range n).map f)[k]? = some a ↔ k < n ∧ f k = a := by
  rw [List.getElem?_map]
  by_cases h : k < n
  · rw [List.getElem?_range h]; simp [h]
  · rw [List.getElem?_eq_none (by simpa using h)]; simp [h]

theorem mem_zip_tail_getElem? {α} (l : List α) (x y : α) :
    (x, y) ∈ l.zip l.tail ↔ ∃ p, l[p]? = some x ∧ l[p + 1]? = some y := by
  simp only [List.mem_iff_getElem?, List.getElem?_zip_eq_some, List.getElem?_tail]

theorem mem_zip_tail_range_map (f : Nat → Nat) (n : Nat) (u v : Nat) :
    (u, v) ∈ ((List.range n).map f).zip ((List.range n).map f).tail ↔ ∃ p, p + 1 < n ∧ u = f p ∧ v = f (p + 1) := by
  simp only [mem_zip_tail_getElem?, getElem?_map_range]
  exact ⟨fun ⟨p, h1, h2⟩ => ⟨p, h2.1, h1.2.symm, h2.2.symm⟩,
    fun ⟨p, h, hu, hv⟩ => ⟨p, ⟨by omega, hu.symm⟩, h, hv.symm⟩⟩

theorem mem_allOps_iff (I : Instance) (j p : Nat) :
    (j, p) ∈ allOps I ↔ j < I.length ∧ p < (I.getD j []).length := by
  simp only [allOps, List.mem_flatMap, List.mem_range, List.mem_map, Prod.mk.injEq]
  constructor
  · rintro ⟨j', hj', p', hp', rfl, rfl⟩; exact ⟨hj', hp'⟩
  · rintro ⟨hj, hp⟩; exact ⟨j, hj, p, hp, rfl, rfl⟩

theorem nodesByMachine_eq (I : Instance) (m : Nat) :
    nodesByMachine I m = ((allOps I).filter (onMachine I m)).map (opId I) := rfl

theorem mem_nodesByMachine (I : Instance) (m u : Nat) :
    u ∈ nodesByMachine I m ↔ ∃ r ∈ allOps I, onMachine I m r = true ∧ u = opId I r := by
  rw [nodesByMachine_eq]
  simp only [List.mem_map, List.mem_filter]
  constructor
  · rintro ⟨r, ⟨h1, h2⟩, rfl⟩; exact ⟨r, h1, h2, rfl⟩
  · rintro ⟨r, h1, h2, rfl⟩; exact ⟨r, ⟨h1, h2⟩, rfl⟩

theorem nodesByMachine_nodup (I : Instance) (m : Nat) : (nodesByMachine I m).Nodup := by
  rw [nodesByMachine_eq]
  have h : List.Sublist (((allOps I).filter (onMachine I m)).map (opId I)) ((allOps I).map (opId I)) :=
    List.Sublist.map _ List.filter_sublist
  rw [C14_ids] at h
  exact h.nodup List.nodup_range

theorem nodesByJob_eq (I : Instance) (j : Nat) :
    nodesByJob I j = (List.range (I.getD j []).length).map (fun p => opId I (j, p)) := rfl

theorem opId_job_inj (I : Instance) (j p q : Nat) (h : opId I (j, p) = opId I (j, q)) : p = q := by
  simp only [opId] at h; omega

theorem nodesByJob_nodup (I : Instance) (j : Nat) : (nodesByJob I j).Nodup := by
  rw [nodesByJob_eq]
  exact List.Pairwise.map _ (fun a b hab e => hab (opId_job_inj I j a b e)) List.nodup_range

theorem mem_nodesByJob (I : Instance) (j u : Nat) (hj : j < I.length) :
    u ∈ nodesByJob I j ↔ ∃ p, (j, p) ∈ allOps I ∧ u = opId I (j, p) := by
  rw [nodesByJob_eq]
  simp only [List.mem_map, List.mem_range, mem_allOps_iff, hj, true_and]
  exact exists_congr fun p => and_congr_right fun _ => eq_comm

/-! ## the disjunctive graph -/

/-- the `add_edge` calls of the disjunctive phase -/
def disjList (I : Instance) : List (Nat × Nat) :=
  (List.range (numMachines I)).flatMap fun m => bothDir (pairs (nodesByMachine I m))

/-- the `add_edge` calls of the conjunctive phase -/
def conjList (I : Instance) : List (Nat × Nat) :=
  (List.range I.length).flatMap fun j => (nodesByJob I j).zip (nodesByJob I j).tail

/-- the `add_edge` calls of the source/sink phase -/
def ssList (I : Instance) (n : Nat) : List (Nat × Nat) :=
  (List.range I.length).flatMap fun j =>
    match (nodesByJob I j).head?, (nodesByJob I j).getLast? with
    | some a, some b => [(n, a), (b, n + 1)]
    | _, _ => []

theorem addConjunctiveEdges_eq (I : Instance) (g : Graph) :
    addConjunctiveEdges I g = (List.range I.length).foldl (fun g j =>
      ((nodesByJob I j).zip (nodesByJob I j).tail).foldl (fun g xy => g.addEdge xy.1 xy.2 .conjunctive) g) g := rfl

theorem foldl_pairs_fold (t : EType) (nb : Nat → List Nat) (N : Nat) (g : Graph) :
    (List.range N).foldl (fun g k => (pairs (nb k)).foldl (fun g (a, b) => addBoth g a b t) g) g =
      ((List.range N).flatMap fun k => bothDir (pairs (nb k))).foldl (fun g xy => g.addEdge xy.1 xy.2 t) g := by
  rw [List.foldl_flatMap]
  congr 1
  funext g k
  rw [← foldl_addBoth]

theorem addDisjunctiveEdges_fold (I : Instance) (g : Graph) :
    addDisjunctiveEdges I g = (disjList I).foldl (fun g xy => g.addEdge xy.1 xy.2 .disjunctive) g :=
  foldl_pairs_fold .disjunctive (nodesByMachine I) (numMachines I) g

theorem addConjunctiveEdges_fold (I : Instance) (g : Graph) :
    addConjunctiveEdges I g = (conjList I).foldl (fun g xy => g.addEdge xy.1 xy.2 .conjunctive) g := by
  rw [addConjunctiveEdges_eq]
  unfold conjList
  rw [List.foldl_flatMap]

theorem addSourceSink_fold (I : Instance) (g : Graph) :
    addSourceSink I g = (ssList I g.nodes.length).foldl (fun g xy => g.addEdge xy.1 xy.2 .conjunctive)
      ((g.addNode .source).addNode .sink) := by
  unfold addSourceSink ssList
  simp only
  rw [List.foldl_flatMap]
  congr 1
  funext g' j
  cases (nodesByJob I j).head? with
  | none => rfl
  | some a =>
    cases (nodesByJob I j).getLast? with
    | none => rfl
    | some b => rfl

/-- `b` is the operation that follows `a` in its job -/
def JobSucc (a b : OpRef) : Prop := b.1 = a.1 ∧ b.2 = a.2 + 1

/-- some machine is eligible for both operations -/
def ShareMachine (I : Instance) (a b : OpRef) : Prop := ∃ m, onMachine I m a = true ∧ onMachine I m b = true

theorem onMachine_lt {I : Instance} {m : Nat} {r : OpRef} (h : onMachine I m r = true) : m < numMachines I := by
  unfold onMachine at h
  cases hop : getOp I r.1 r.2 with
  | none => simp [hop] at h
  | some op =>
    simp only [hop, List.contains_iff_mem] at h
    exact machine_lt I r.1 r.2 m op hop h

theorem mem_disjList (I : Instance) (u v : Nat) :
    (u, v) ∈ disjList I ↔
      ∃ a ∈ allOps I, ∃ b ∈ allOps I, a ≠ b ∧ u = opId I a ∧ v = opId I b ∧ ShareMachine I a b := by
  simp only [disjList, List.mem_flatMap, List.mem_range, mem_bothDir_pairs _ (nodesByMachine_nodup I _),
    mem_nodesByMachine]
  constructor
  · rintro ⟨m, _, ⟨a, ha, hma, rfl⟩, ⟨b, hb, hmb, rfl⟩, hne⟩
    exact ⟨a, ha, b, hb, fun e => hne (by rw [e]), rfl, rfl, m, hma, hmb⟩
  · rintro ⟨a, ha, b, hb, hne, rfl, rfl, m, hma, hmb⟩
    exact ⟨m, onMachine_lt hma, ⟨a, ha, hma, rfl⟩, ⟨b, hb, hmb, rfl⟩, fun e => hne (opId_inj ha hb e)⟩

theorem mem_conjList (I : Instance) (u v : Nat) :
    (u, v) ∈ conjList I ↔ ∃ a ∈ allOps I, ∃ b ∈ allOps I, JobSucc a b ∧ u = opId I a ∧ v = opId I b := by
  simp only [conjList, List.mem_flatMap, List.mem_range]
  constructor
  · rintro ⟨j, hj, h⟩
    rw [nodesByJob_eq, mem_zip_tail_range_map] at h
    obtain ⟨p, hp, rfl, rfl⟩ := h
    exact ⟨(j, p), (mem_allOps_iff I j p).2 ⟨hj, by omega⟩, (j, p + 1), (mem_allOps_iff I j (p + 1)).2 ⟨hj, hp⟩,
      ⟨rfl, rfl⟩, rfl, rfl⟩
  · rintro ⟨⟨j, p⟩, _, ⟨j', p'⟩, hb, ⟨h1, h2⟩, rfl, rfl⟩
    simp only at h1 h2
    subst h1 h2
    obtain ⟨hj, hp⟩ := (mem_allOps_iff I j' (p + 1)).1 hb
    refine ⟨j', hj, ?_⟩
    rw [nodesByJob_eq, mem_zip_tail_range_map]
    exact ⟨p, hp, rfl, rfl⟩

theorem ssStep_eq (I : Instance) (n j : Nat) :
    (match (nodesByJob I j).head?, (nodesByJob I j).getLast? with
      | some a, some b => [(n, a), (b, n + 1)]
      | _, _ => []) =
    if (I.getD j []).length = 0 then []
    else [(n, opId I (j, 0)), (opId I (j, (I.getD j []).length - 1), n + 1)] := by
  rw [nodesByJob_eq, List.head?_map, List.getLast?_map, List.head?_range, List.getLast?_range]
  by_cases h : (I.getD j []).length = 0
  · simp only [h, ↓reduceIte, Option.map_none]
  · simp only [h, ↓reduceIte, Option.map_some]

theorem mem_ssList (I : Instance) (n u v : Nat) :
    (u, v) ∈ ssList I n ↔
      (∃ a ∈ allOps I, a.2 = 0 ∧ u = n ∧ v = opId I a) ∨
      (∃ a ∈ allOps I, (a.1, a.2 + 1) ∉ allOps I ∧ u = opId I a ∧ v = n + 1) := by
  simp only [ssList, List.mem_flatMap, List.mem_range, ssStep_eq]
  constructor
  · rintro ⟨j, hj, h⟩
    by_cases hl : (I.getD j []).length = 0
    · rw [if_pos hl] at h; cases h
    · rw [if_neg hl] at h
      simp only [List.mem_cons, Prod.mk.injEq, List.not_mem_nil, or_false] at h
      rcases h with ⟨rfl, rfl⟩ | ⟨rfl, rfl⟩
      · exact Or.inl ⟨(j, 0), (mem_allOps_iff I j 0).2 ⟨hj, by omega⟩, rfl, rfl, rfl⟩
      · refine Or.inr ⟨(j, (I.getD j []).length - 1), (mem_allOps_iff I j _).2 ⟨hj, by omega⟩, ?_, rfl, rfl⟩
        rw [mem_allOps_iff]
        simp only
        omega
  · rintro (⟨⟨j, p⟩, ha, h0, rfl, rfl⟩ | ⟨⟨j, p⟩, ha, hlast, rfl, rfl⟩)
    · simp only at h0; subst h0
      obtain ⟨hj, hp⟩ := (mem_allOps_iff I j 0).1 ha
      refine ⟨j, hj, ?_⟩
      rw [if_neg (Nat.ne_of_gt hp)]
      exact List.mem_cons_self
    · obtain ⟨hj, hp⟩ := (mem_allOps_iff I j p).1 ha
      rw [mem_allOps_iff] at hlast
      simp only at hlast
      refine ⟨j, hj, ?_⟩
      have hpe : (I.getD j []).length - 1 = p := by omega
      rw [if_neg (Nat.ne_of_gt (Nat.zero_lt_of_lt hp)), hpe]
      exact List.mem_cons_of_mem _ List.mem_cons_self

theorem not_mem_ssList_of_lt (I : Instance) (n u v : Nat) (hu : u < n) (hv : v < n) : (u, v) ∉ ssList I n := by
  rw [mem_ssList]
  rintro (⟨_, _, _, h, _⟩ | ⟨_, _, _, _, h⟩) <;> omega

abbrev opsL (I : Instance) : List NodeKind := (List.range (numOps I)).map NodeKind.operation
abbrev machsL (I : Instance) : List NodeKind := (List.range (numMachines I)).map NodeKind.machine
abbrev jobsL (I : Instance) : List NodeKind := (List.range I.length).map NodeKind.job

theorem length_opsL (I : Instance) : (opsL I).length = numOps I := by simp

theorem length_opsL_machsL (I : Instance) : (opsL I ++ machsL I).length = numOps I + numMachines I := by simp

theorem length_opsL_machsL_jobsL (I : Instance) :
    (opsL I ++ machsL I ++ jobsL I).length = numOps I + numMachines I + I.length := by simp; omega

theorem stage_opNodes (I : Instance) :
    Stage (opNodesGraph I) ((List.range (numOps I)).map .operation) (fun _ _ _ => False) :=
  stage_addNodes NodeKind.operation (List.range (numOps I)) stage_empty

/-- **Specification of the disjunctive graph** (nodes: operations, then source `numOps I`, sink `numOps I + 1`).
Between two different operations `a`, `b` there is an edge `opId a → opId b` iff `b` is the job successor of `a` or
they share an eligible machine; it is conjunctive in the first case and disjunctive otherwise.  The source points
(conjunctive) to the first operation of every non-empty job, the last operation of every non-empty job points
(conjunctive) to the sink; nothing else. -/
def DisjEdgeSpec (I : Instance) (u v : Nat) (t : EType) : Prop :=
  (∃ a ∈ allOps I, ∃ b ∈ allOps I, a ≠ b ∧ u = opId I a ∧ v = opId I b ∧
      ((JobSucc a b ∧ t = .conjunctive) ∨ (¬ JobSucc a b ∧ ShareMachine I a b ∧ t = .disjunctive))) ∨
  (∃ a ∈ allOps I, a.2 = 0 ∧ u = numOps I ∧ v = opId I a ∧ t = .conjunctive) ∨
  (∃ a ∈ allOps I, (a.1, a.2 + 1) ∉ allOps I ∧ u = opId I a ∧ v = numOps I + 1 ∧ t = .conjunctive)

theorem jobSucc_ne {a b : OpRef} (h : JobSucc a b) : a ≠ b := by
  intro e; subst e; have := h.2; omega

theorem stage_conj_ss (I : Instance) {g : Graph} {S : Nat → Nat → EType → Prop} (h : Stage g (opsL I) S) :
    Stage (addSourceSink I (addConjunctiveEdges I g)) (opsL I ++ [.source, .sink])
      (fun u v t => ((S u v t ∧ (u, v) ∉ conjList I ∨ (u, v) ∈ conjList I ∧ t = .conjunctive) ∧
          (u, v) ∉ ssList I (numOps I)) ∨ ((u, v) ∈ ssList I (numOps I) ∧ t = .conjunctive)) := by
  have h2 := stage_fold .conjunctive (conjList I) h (fun x y hxy => by
    obtain ⟨a, ha, b, hb, _, rfl, rfl⟩ := (mem_conjList I x y).1 hxy
    rw [length_opsL]; exact ⟨opId_lt ha, opId_lt hb⟩)
  rw [← addConjunctiveEdges_fold] at h2
  have hn2 : (addConjunctiveEdges I g).nodes.length = numOps I := by rw [h2.nodes, length_opsL]
  have h3 := stage_fold .conjunctive (ssList I (numOps I)) (stage_addNode (stage_addNode h2 .source) .sink)
    (fun x y hxy => by
      simp only [List.length_append, length_opsL, List.length_singleton]
      rcases (mem_ssList I _ x y).1 hxy with ⟨a, ha, _, rfl, rfl⟩ | ⟨a, ha, _, rfl, rfl⟩ <;>
      · have := opId_lt ha; constructor <;> omega)
  rw [← hn2, ← addSourceSink_fold, hn2, List.append_assoc] at h3
  exact h3

theorem stage_disjunctive (I : Instance) :
    Stage (buildDisjunctive I) ((List.range (numOps I)).map .operation ++ [.source, .sink]) (DisjEdgeSpec I) := by
  have h1 := stage_fold .disjunctive (disjList I) (stage_opNodes I) (fun x y hxy => by
    obtain ⟨a, ha, b, hb, _, rfl, rfl, _⟩ := (mem_disjList I x y).1 hxy
    rw [length_opsL]; exact ⟨opId_lt ha, opId_lt hb⟩)
  rw [← addDisjunctiveEdges_fold] at h1
  unfold buildDisjunctive
  apply stage_congr (stage_conj_ss I h1)
  intro u v t
  simp only [false_and, false_or, mem_disjList, mem_conjList]
  unfold DisjEdgeSpec
  constructor
  · rintro (⟨(⟨⟨hd, rfl⟩, hnc⟩ | ⟨hc, rfl⟩), _⟩ | ⟨hs, rfl⟩)
    · obtain ⟨a, ha, b, hb, hne, rfl, rfl, hsh⟩ := hd
      exact Or.inl ⟨a, ha, b, hb, hne, rfl, rfl, Or.inr ⟨fun hjs => hnc ⟨a, ha, b, hb, hjs, rfl, rfl⟩, hsh, rfl⟩⟩
    · obtain ⟨a, ha, b, hb, hjs, rfl, rfl⟩ := hc
      exact Or.inl ⟨a, ha, b, hb, jobSucc_ne hjs, rfl, rfl, Or.inl ⟨hjs, rfl⟩⟩
    · rcases (mem_ssList I _ u v).1 hs with ⟨a, ha, h0, rfl, rfl⟩ | ⟨a, ha, hl, rfl, rfl⟩
      · exact Or.inr (Or.inl ⟨a, ha, h0, rfl, rfl, rfl⟩)
      · exact Or.inr (Or.inr ⟨a, ha, hl, rfl, rfl, rfl⟩)
  · rintro (⟨a, ha, b, hb, hne, rfl, rfl, h⟩ | ⟨a, ha, h0, rfl, rfl, rfl⟩ | ⟨a, ha, hl, rfl, rfl, rfl⟩)
    · have hn3 := not_mem_ssList_of_lt I (numOps I) _ _ (opId_lt ha) (opId_lt hb)
      rcases h with ⟨hjs, rfl⟩ | ⟨hnjs, hsh, rfl⟩
      · exact Or.inl ⟨Or.inr ⟨⟨a, ha, b, hb, hjs, rfl, rfl⟩, rfl⟩, hn3⟩
      · refine Or.inl ⟨Or.inl ⟨⟨⟨a, ha, b, hb, hne, rfl, rfl, hsh⟩, rfl⟩, ?_⟩, hn3⟩
        rintro ⟨a', ha', b', hb', hjs, e1, e2⟩
        obtain rfl := opId_inj ha ha' e1
        obtain rfl := opId_inj hb hb' e2
        exact hnjs hjs
    · exact Or.inr ⟨(mem_ssList I _ _ _).2 (Or.inl ⟨a, ha, h0, rfl, rfl⟩), rfl⟩
    · exact Or.inr ⟨(mem_ssList I _ _ _).2 (Or.inr ⟨a, ha, hl, rfl, rfl⟩), rfl⟩

set_option linter.unusedVariables false in
/-- **C16 (disjunctive graph: exactly the prescribed edges, correctly typed).**  (`Valid I` is not needed.) -/
theorem C16_disjunctive_edges (I : Instance) (hv : Valid I) (u v : Nat) (t : EType) :
    (u, v, t) ∈ (buildDisjunctive I).edges ↔ DisjEdgeSpec I u v t :=
  stage_edges (stage_disjunctive I) u v t

theorem idxOf_map_range (f : Nat → NodeKind) (hinj : ∀ a b, f a = f b → a = b) (N k : Nat) (hk : k < N) :
    List.idxOf (f k) ((List.range N).map f) = k := by
  have hn : ((List.range N).map f).Nodup :=
    List.Pairwise.map _ (fun a b hab e => hab (hinj a b e)) List.nodup_range
  have h := hn.idxOf_getElem k (by rw [List.length_map, List.length_range]; exact hk)
  rwa [List.getElem_map, List.getElem_range] at h

theorem idxOf_block (f : Nat → NodeKind) (hinj : ∀ a b, f a = f b → a = b) (pre rest : List NodeKind) (N k : Nat)
    (hk : k < N) (hpre : f k ∉ pre) :
    List.idxOf (f k) (pre ++ (List.range N).map f ++ rest) = pre.length + k := by
  have h1 : f k ∈ pre ++ (List.range N).map f :=
    List.mem_append.2 (Or.inr (List.mem_map.2 ⟨k, List.mem_range.2 hk, rfl⟩))
  rw [List.idxOf_append, if_pos h1, List.idxOf_append, if_neg hpre, idxOf_map_range f hinj N k hk, Nat.add_comm]

theorem idxOf_machine (n M m : Nat) (rest : List NodeKind) (hm : m < M) :
    List.idxOf (NodeKind.machine m)
      ((List.range n).map NodeKind.operation ++ (List.range M).map NodeKind.machine ++ rest) = n + m := by
  rw [idxOf_block NodeKind.machine (fun _ _ => NodeKind.machine.inj) _ rest M m hm (by simp),
    List.length_map, List.length_range]

theorem idxOf_job (n M J j : Nat) (rest : List NodeKind) (hj : j < J) :
    List.idxOf (NodeKind.job j)
      ((List.range n).map NodeKind.operation ++ (List.range M).map NodeKind.machine ++
        (List.range J).map NodeKind.job ++ rest) = n + M + j := by
  rw [idxOf_block NodeKind.job (fun _ _ => NodeKind.job.inj) _ rest J j hj (by simp),
    List.length_append, List.length_map, List.length_map, List.length_range, List.length_range]

theorem foldl_congr_nodes {α} (f f' : Graph → α → Graph) (ns : List NodeKind)
    (hn : ∀ g a, (f' g a).nodes = g.nodes) : ∀ (l : List α) (g : Graph), g.nodes = ns →
    (∀ g, g.nodes = ns → ∀ a ∈ l, f g a = f' g a) → l.foldl f g = l.foldl f' g
  | [], _, _, _ => rfl
  | a :: l, g, hg, h => by
    simp only [List.foldl_cons]
    rw [h g hg a (by simp)]
    exact foldl_congr_nodes f f' ns hn l _ (by rw [hn]; exact hg) (fun g' hg' b hb => h g' hg' b (by simp [hb]))

theorem foldl_addBoth_map {α} (t : EType) (f : α → Nat × Nat) (l : List α) (g : Graph) :
    l.foldl (fun g a => addBoth g (f a).1 (f a).2 t) g =
      (bothDir (l.map f)).foldl (fun g xy => g.addEdge xy.1 xy.2 t) g := by
  rw [← foldl_addBoth, List.foldl_map]

/-! The `add_edge` calls of every phase of the agent-task builders. -/

def opMachList (I : Instance) : List (Nat × Nat) :=
  (List.range (numMachines I)).flatMap fun m => bothDir ((nodesByMachine I m).map fun o => (numOps I + m, o))

def machMachList (I : Instance) : List (Nat × Nat) :=
  bothDir (pairs ((List.range (numMachines I)).map fun m => numOps I + m))

def sameJobList (I : Instance) : List (Nat × Nat) :=
  (List.range I.length).flatMap fun j => bothDir (pairs (nodesByJob I j))

def opJobList (I : Instance) : List (Nat × Nat) :=
  (List.range I.length).flatMap fun j =>
    bothDir ((nodesByJob I j).map fun o => (numOps I + numMachines I + j, o))

def jobJobList (I : Instance) : List (Nat × Nat) :=
  bothDir (pairs ((List.range I.length).map fun j => numOps I + numMachines I + j))

def globalList (I : Instance) : List (Nat × Nat) :=
  bothDir ((List.range (numMachines I)).map fun m => (numOps I + numMachines I + I.length, numOps I + m)) ++
  bothDir ((List.range I.length).map fun j =>
    (numOps I + numMachines I + I.length, numOps I + numMachines I + j))

theorem foldl_addEdge_nodes (t : EType) (L : List (Nat × Nat)) (g : Graph) :
    (L.foldl (fun g xy => g.addEdge xy.1 xy.2 t) g).nodes = g.nodes :=
  foldl_nodes _ (fun g _ => addEdge_nodes g _ _ _) L g

theorem foldl_star_fold (kind : Nat → NodeKind) (c N : Nat) (nb : Nat → List Nat) (ns : List NodeKind)
    (hid : ∀ k < N, List.idxOf (kind k) ns = c + k) (g : Graph) (hg : g.nodes = ns) :
    (List.range N).foldl (fun g k => (nb k).foldl (fun g o => addBoth g (nodeIdOf g (kind k)) o .untyped) g) g =
      ((List.range N).flatMap fun k => bothDir ((nb k).map fun o => (c + k, o))).foldl
        (fun g xy => g.addEdge xy.1 xy.2 .untyped) g := by
  rw [List.foldl_flatMap]
  apply foldl_congr_nodes _ _ _ (fun g m => foldl_addEdge_nodes _ _ g) _ _ hg
  intro g' hg' k hk
  rw [← foldl_addBoth_map]
  apply foldl_congr_nodes _ _ _ (fun g a => addBoth_nodes _ _ _ _) _ _ hg'
  intro g'' hg'' o _
  simp only [nodeIdOf, hg'', hid k (List.mem_range.1 hk)]

theorem foldl_clique_fold (kind : Nat → NodeKind) (c N : Nat) (ns : List NodeKind)
    (hid : ∀ k < N, List.idxOf (kind k) ns = c + k) (g : Graph) (hg : g.nodes = ns) :
    (pairs ((List.range N).map fun k => nodeIdOf g (kind k))).foldl (fun g (a, b) => addBoth g a b .untyped) g =
      (bothDir (pairs ((List.range N).map fun k => c + k))).foldl (fun g xy => g.addEdge xy.1 xy.2 .untyped) g := by
  have : ((List.range N).map fun k => nodeIdOf g (kind k)) = (List.range N).map fun k => c + k :=
    List.map_congr_left fun k hk => by simp only [nodeIdOf, hg, hid k (List.mem_range.1 hk)]
  rw [this, ← foldl_addBoth]

theorem foldl_hub_fold (kind : Nat → NodeKind) (hub c N : Nat) (ns : List NodeKind)
    (hid : ∀ k < N, List.idxOf (kind k) ns = c + k) (g : Graph) (hg : g.nodes = ns) :
    (List.range N).foldl (fun g k => addBoth g hub (nodeIdOf g (kind k)) .untyped) g =
      (bothDir ((List.range N).map fun k => (hub, c + k))).foldl (fun g xy => g.addEdge xy.1 xy.2 .untyped) g := by
  rw [← foldl_addBoth_map]
  apply foldl_congr_nodes _ _ _ (fun g a => addBoth_nodes _ _ _ _) _ _ hg
  intro g' hg' k hk
  simp only [nodeIdOf, hg', hid k (List.mem_range.1 hk)]

theorem addOperationMachineEdges_fold (I : Instance) (g : Graph) (rest : List NodeKind)
    (hg : g.nodes = opsL I ++ machsL I ++ rest) :
    addOperationMachineEdges I g = (opMachList I).foldl (fun g xy => g.addEdge xy.1 xy.2 .untyped) g :=
  foldl_star_fold .machine _ _ (nodesByMachine I) _ (fun _ hm => idxOf_machine _ _ _ rest hm) g hg

theorem addMachineMachineEdges_fold (I : Instance) (g : Graph) (rest : List NodeKind)
    (hg : g.nodes = opsL I ++ machsL I ++ rest) :
    addMachineMachineEdges I g = (machMachList I).foldl (fun g xy => g.addEdge xy.1 xy.2 .untyped) g :=
  foldl_clique_fold .machine _ _ _ (fun _ hm => idxOf_machine _ _ _ rest hm) g hg

theorem addSameJobEdges_fold (I : Instance) (g : Graph) :
    addSameJobEdges I g = (sameJobList I).foldl (fun g xy => g.addEdge xy.1 xy.2 .untyped) g :=
  foldl_pairs_fold .untyped (nodesByJob I) I.length g

theorem addOperationJobEdges_fold (I : Instance) (g : Graph) (rest : List NodeKind)
    (hg : g.nodes = opsL I ++ machsL I ++ jobsL I ++ rest) :
    addOperationJobEdges I g = (opJobList I).foldl (fun g xy => g.addEdge xy.1 xy.2 .untyped) g :=
  foldl_star_fold .job _ _ (nodesByJob I) _ (fun _ hj => idxOf_job _ _ _ _ rest hj) g hg

theorem addJobJobEdges_fold (I : Instance) (g : Graph) (rest : List NodeKind)
    (hg : g.nodes = opsL I ++ machsL I ++ jobsL I ++ rest) :
    addJobJobEdges I g = (jobJobList I).foldl (fun g xy => g.addEdge xy.1 xy.2 .untyped) g :=
  foldl_clique_fold .job _ _ _ (fun _ hj => idxOf_job _ _ _ _ rest hj) g hg

theorem addGlobal_fold (I : Instance) (g : Graph) (hg : g.nodes = opsL I ++ machsL I ++ jobsL I) :
    addGlobal I g = (globalList I).foldl (fun g xy => g.addEdge xy.1 xy.2 .untyped) (g.addNode .global) := by
  have hlen : g.nodes.length = numOps I + numMachines I + I.length := by rw [hg, length_opsL_machsL_jobsL]
  have hg1 : (g.addNode .global).nodes = opsL I ++ machsL I ++ jobsL I ++ [.global] := by
    simp only [Graph.addNode, hg]
  unfold addGlobal globalList
  simp only
  rw [List.foldl_append, hlen,
    foldl_hub_fold .machine _ _ _ _ (fun _ hm => idxOf_machine _ _ _ (jobsL I ++ [.global]) hm) _
      (by rw [hg1, List.append_assoc]),
    foldl_hub_fold .job _ _ _ _ (fun _ hj => idxOf_job _ _ _ _ [.global] hj) _
      (by rw [foldl_addEdge_nodes]; exact hg1)]

/-! Node ids: operation `r` is `opId I r`, machine `m` is `numOps I + m`, job `j` is `numOps I + numMachines I + j`, the
global node is `numOps I + numMachines I + I.length`. -/

/-- operation ↔ machine, for every eligible machine of the operation -/
def OpMachEdge (I : Instance) (u v : Nat) : Prop :=
  ∃ r ∈ allOps I, ∃ m, onMachine I m r = true ∧
    ((u = opId I r ∧ v = numOps I + m) ∨ (u = numOps I + m ∧ v = opId I r))

/-- machine ↔ machine, for every two different machines -/
def MachMachEdge (I : Instance) (u v : Nat) : Prop :=
  ∃ m₁ m₂, m₁ < numMachines I ∧ m₂ < numMachines I ∧ m₁ ≠ m₂ ∧ u = numOps I + m₁ ∧ v = numOps I + m₂

/-- operation ↔ operation, for every two different operations of one job -/
def SameJobEdge (I : Instance) (u v : Nat) : Prop :=
  ∃ a ∈ allOps I, ∃ b ∈ allOps I, a ≠ b ∧ a.1 = b.1 ∧ u = opId I a ∧ v = opId I b

/-- operation ↔ its job node -/
def OpJobEdge (I : Instance) (u v : Nat) : Prop :=
  ∃ r ∈ allOps I, (u = opId I r ∧ v = numOps I + numMachines I + r.1) ∨
    (u = numOps I + numMachines I + r.1 ∧ v = opId I r)

/-- job ↔ job, for every two different jobs -/
def JobJobEdge (I : Instance) (u v : Nat) : Prop :=
  ∃ j₁ j₂, j₁ < I.length ∧ j₂ < I.length ∧ j₁ ≠ j₂ ∧
    u = numOps I + numMachines I + j₁ ∧ v = numOps I + numMachines I + j₂

/-- global ↔ every machine -/
def GlobalMachEdge (I : Instance) (u v : Nat) : Prop :=
  ∃ m, m < numMachines I ∧
    ((u = numOps I + numMachines I + I.length ∧ v = numOps I + m) ∨
     (u = numOps I + m ∧ v = numOps I + numMachines I + I.length))

/-- global ↔ every job -/
def GlobalJobEdge (I : Instance) (u v : Nat) : Prop :=
  ∃ j, j < I.length ∧
    ((u = numOps I + numMachines I + I.length ∧ v = numOps I + numMachines I + j) ∨
     (u = numOps I + numMachines I + j ∧ v = numOps I + numMachines I + I.length))

theorem mem_opMachList (I : Instance) (u v : Nat) : (u, v) ∈ opMachList I ↔ OpMachEdge I u v := by
  simp only [opMachList, List.mem_flatMap, List.mem_range, mem_bothDir_star, OpMachEdge]
  constructor
  · rintro ⟨m, _, o, ho, h⟩
    obtain ⟨r, hr, hm, rfl⟩ := (mem_nodesByMachine I m o).1 ho
    exact ⟨r, hr, m, hm, h.symm⟩
  · rintro ⟨r, hr, m, hm, h⟩
    exact ⟨m, onMachine_lt hm, opId I r, (mem_nodesByMachine I m _).2 ⟨r, hr, hm, rfl⟩, h.symm⟩

theorem mem_bothDir_pairs_offset (c N u v : Nat) :
    (u, v) ∈ bothDir (pairs ((List.range N).map fun k => c + k)) ↔
      ∃ k₁ k₂, k₁ < N ∧ k₂ < N ∧ k₁ ≠ k₂ ∧ u = c + k₁ ∧ v = c + k₂ := by
  have hn : ((List.range N).map fun k => c + k).Nodup :=
    List.Pairwise.map _ (fun a b hab e => hab (by omega)) List.nodup_range
  rw [mem_bothDir_pairs _ hn]
  simp only [List.mem_map, List.mem_range]
  constructor
  · rintro ⟨⟨k₁, h1, rfl⟩, ⟨k₂, h2, rfl⟩, hne⟩
    exact ⟨k₁, k₂, h1, h2, fun e => hne (by rw [e]), rfl, rfl⟩
  · rintro ⟨k₁, k₂, h1, h2, hne, rfl, rfl⟩
    exact ⟨⟨k₁, h1, rfl⟩, ⟨k₂, h2, rfl⟩, fun e => hne (by omega)⟩

theorem mem_machMachList (I : Instance) (u v : Nat) : (u, v) ∈ machMachList I ↔ MachMachEdge I u v :=
  mem_bothDir_pairs_offset _ _ u v

theorem mem_jobJobList (I : Instance) (u v : Nat) : (u, v) ∈ jobJobList I ↔ JobJobEdge I u v :=
  mem_bothDir_pairs_offset _ _ u v

theorem mem_sameJobList (I : Instance) (u v : Nat) : (u, v) ∈ sameJobList I ↔ SameJobEdge I u v := by
  simp only [sameJobList, List.mem_flatMap, List.mem_range, mem_bothDir_pairs _ (nodesByJob_nodup I _), SameJobEdge]
  constructor
  · rintro ⟨j, hj, hu, hv, hne⟩
    obtain ⟨p, hp, rfl⟩ := (mem_nodesByJob I j u hj).1 hu
    obtain ⟨q, hq, rfl⟩ := (mem_nodesByJob I j v hj).1 hv
    exact ⟨(j, p), hp, (j, q), hq, fun e => hne (by rw [e]), rfl, rfl, rfl⟩
  · rintro ⟨⟨j, p⟩, ha, ⟨j', q⟩, hb, hne, hjj, rfl, rfl⟩
    simp only at hjj; subst hjj
    have hj := ((mem_allOps_iff I j p).1 ha).1
    exact ⟨j, hj, (mem_nodesByJob I j _ hj).2 ⟨p, ha, rfl⟩, (mem_nodesByJob I j _ hj).2 ⟨q, hb, rfl⟩,
      fun e => hne (opId_inj ha hb e)⟩

theorem mem_opJobList (I : Instance) (u v : Nat) : (u, v) ∈ opJobList I ↔ OpJobEdge I u v := by
  simp only [opJobList, List.mem_flatMap, List.mem_range, mem_bothDir_star, OpJobEdge]
  constructor
  · rintro ⟨j, hj, o, ho, h⟩
    obtain ⟨p, hp, rfl⟩ := (mem_nodesByJob I j o hj).1 ho
    exact ⟨(j, p), hp, h.symm⟩
  · rintro ⟨⟨j, p⟩, hr, h⟩
    have hj := ((mem_allOps_iff I j p).1 hr).1
    exact ⟨j, hj, opId I (j, p), (mem_nodesByJob I j _ hj).2 ⟨p, hr, rfl⟩, h.symm⟩

theorem mem_globalList (I : Instance) (u v : Nat) :
    (u, v) ∈ globalList I ↔ GlobalMachEdge I u v ∨ GlobalJobEdge I u v := by
  simp only [globalList, List.mem_append, mem_bothDir_hub, List.mem_range]
  rfl

theorem opMachEdge_lt {I : Instance} {u v : Nat} (h : OpMachEdge I u v) :
    u < numOps I + numMachines I ∧ v < numOps I + numMachines I := by
  obtain ⟨r, hr, m, hm, (⟨rfl, rfl⟩ | ⟨rfl, rfl⟩)⟩ := h <;>
  · have := opId_lt hr; have := onMachine_lt hm; constructor <;> omega

theorem machMachEdge_lt {I : Instance} {u v : Nat} (h : MachMachEdge I u v) :
    u < numOps I + numMachines I ∧ v < numOps I + numMachines I := by
  obtain ⟨m₁, m₂, h1, h2, _, rfl, rfl⟩ := h
  constructor <;> omega

theorem sameJobEdge_lt {I : Instance} {u v : Nat} (h : SameJobEdge I u v) : u < numOps I ∧ v < numOps I := by
  obtain ⟨a, ha, b, hb, _, _, rfl, rfl⟩ := h
  exact ⟨opId_lt ha, opId_lt hb⟩

theorem opJobEdge_lt {I : Instance} {u v : Nat} (h : OpJobEdge I u v) :
    u < numOps I + numMachines I + I.length ∧ v < numOps I + numMachines I + I.length := by
  obtain ⟨⟨j, p⟩, hr, (⟨rfl, rfl⟩ | ⟨rfl, rfl⟩)⟩ := h <;>
  · have := opId_lt hr; have := ((mem_allOps_iff I j p).1 hr).1; constructor <;> omega

theorem jobJobEdge_lt {I : Instance} {u v : Nat} (h : JobJobEdge I u v) :
    u < numOps I + numMachines I + I.length ∧ v < numOps I + numMachines I + I.length := by
  obtain ⟨j₁, j₂, h1, h2, _, rfl, rfl⟩ := h
  constructor <;> omega

theorem globalEdge_lt {I : Instance} {u v : Nat} (h : GlobalMachEdge I u v ∨ GlobalJobEdge I u v) :
    u < numOps I + numMachines I + I.length + 1 ∧ v < numOps I + numMachines I + I.length + 1 := by
  rcases h with ⟨m, hm, (⟨rfl, rfl⟩ | ⟨rfl, rfl⟩)⟩ | ⟨j, hj, (⟨rfl, rfl⟩ | ⟨rfl, rfl⟩)⟩ <;> constructor <;> omega

theorem stage_step {g g' : Graph} {ns : List NodeKind} {P Q : Nat → Nat → Prop} (L : List (Nat × Nat))
    (h : Stage g ns (fun u v t => P u v ∧ t = .untyped))
    (hg' : g' = L.foldl (fun g xy => g.addEdge xy.1 xy.2 .untyped) g)
    (hmem : ∀ u v, (u, v) ∈ L ↔ Q u v) (hlt : ∀ u v, Q u v → u < ns.length ∧ v < ns.length) :
    Stage g' ns (fun u v t => (P u v ∨ Q u v) ∧ t = .untyped) := by
  subst hg'
  apply stage_congr (stage_fold .untyped L h (fun x y hxy => hlt x y ((hmem x y).1 hxy)))
  intro u v t
  rw [hmem]
  by_cases hq : Q u v <;> simp [hq]

/-- operation nodes, machine nodes, operation ↔ machine edges: the common prefix of the three agent-task builders -/
theorem stage_opMach (I : Instance) :
    Stage (addOperationMachineEdges I (addMachineNodes I (opNodesGraph I))) (opsL I ++ machsL I)
      (fun u v t => OpMachEdge I u v ∧ t = .untyped) := by
  have h0 : Stage (addMachineNodes I (opNodesGraph I)) (opsL I ++ machsL I) _ :=
    stage_addNodes NodeKind.machine (List.range (numMachines I)) (stage_opNodes I)
  have h1 := stage_fold .untyped (opMachList I) h0 (fun x y hxy => by
    rw [length_opsL_machsL]; exact opMachEdge_lt ((mem_opMachList I x y).1 hxy))
  rw [← addOperationMachineEdges_fold I _ [] (by rw [h0.nodes, List.append_nil])] at h1
  apply stage_congr h1
  intro u v t
  rw [mem_opMachList]
  exact ⟨fun h => h.elim (fun h => h.1.elim) id, Or.inr⟩

/-- … and machine ↔ machine edges: the common prefix of the two builders without a global node -/
theorem stage_machMach (I : Instance) :
    Stage (addMachineMachineEdges I (addOperationMachineEdges I (addMachineNodes I (opNodesGraph I))))
      (opsL I ++ machsL I) (fun u v t => (OpMachEdge I u v ∨ MachMachEdge I u v) ∧ t = .untyped) :=
  stage_step (machMachList I) (stage_opMach I)
    (addMachineMachineEdges_fold I _ [] (by rw [(stage_opMach I).nodes, List.append_nil])) (mem_machMachList I)
    (fun u v h => by rw [length_opsL_machsL]; exact machMachEdge_lt h)

/-- **Specification of the agent-task graph** (nodes: operations, then machine `m` at `numOps I + m`): untyped edges
operation ↔ eligible machine, machine ↔ machine (different), operation ↔ operation (different, same job); nothing
else. -/
def AgentTaskEdgeSpec (I : Instance) (u v : Nat) (t : EType) : Prop :=
  (OpMachEdge I u v ∨ MachMachEdge I u v ∨ SameJobEdge I u v) ∧ t = .untyped

theorem stage_agentTask (I : Instance) :
    Stage (buildAgentTask I) (opsL I ++ machsL I) (AgentTaskEdgeSpec I) := by
  have h2 := stage_machMach I
  have h3 := stage_step (sameJobList I) h2 (addSameJobEdges_fold I _) (mem_sameJobList I)
    (fun u v h => by rw [length_opsL_machsL]; have := sameJobEdge_lt h; omega)
  unfold buildAgentTask
  apply stage_congr h3
  intro u v t
  unfold AgentTaskEdgeSpec
  rw [or_assoc]

set_option linter.unusedVariables false in
/-- **C16 (agent-task graph: exactly the prescribed edges).**  (`Valid I` is not needed.) -/
theorem C16_agentTask_edges (I : Instance) (hv : Valid I) (u v : Nat) (t : EType) :
    (u, v, t) ∈ (buildAgentTask I).edges ↔ AgentTaskEdgeSpec I u v t :=
  stage_edges (stage_agentTask I) u v t

theorem stage_opJob (I : Instance) {g : Graph} {P : Nat → Nat → Prop}
    (h : Stage g (opsL I ++ machsL I) (fun u v t => P u v ∧ t = .untyped)) :
    Stage (addOperationJobEdges I (addJobNodes I g)) (opsL I ++ machsL I ++ jobsL I)
      (fun u v t => (P u v ∨ OpJobEdge I u v) ∧ t = .untyped) := by
  have h3 : Stage (addJobNodes I g) (opsL I ++ machsL I ++ jobsL I) _ :=
    stage_addNodes NodeKind.job (List.range I.length) h
  exact stage_step (opJobList I) h3
    (addOperationJobEdges_fold I _ [] (by rw [h3.nodes, List.append_nil])) (mem_opJobList I)
    (fun u v h => by rw [length_opsL_machsL_jobsL]; exact opJobEdge_lt h)

/-- **Specification of the agent-task graph with job nodes** (nodes: operations, machine `m` at `numOps I + m`, job `j`
at `numOps I + numMachines I + j`): untyped edges operation ↔ eligible machine, machine ↔ machine (different),
operation ↔ its job, job ↔ job (different); nothing else. -/
def AgentTaskJobsEdgeSpec (I : Instance) (u v : Nat) (t : EType) : Prop :=
  (OpMachEdge I u v ∨ MachMachEdge I u v ∨ OpJobEdge I u v ∨ JobJobEdge I u v) ∧ t = .untyped

theorem stage_agentTaskJobs (I : Instance) :
    Stage (buildAgentTaskJobs I) (opsL I ++ machsL I ++ jobsL I) (AgentTaskJobsEdgeSpec I) := by
  have h4 := stage_opJob I (stage_machMach I)
  have h5 := stage_step (jobJobList I) h4
    (addJobJobEdges_fold I _ [] (by rw [h4.nodes, List.append_nil])) (mem_jobJobList I)
    (fun u v h => by rw [length_opsL_machsL_jobsL]; exact jobJobEdge_lt h)
  unfold buildAgentTaskJobs
  apply stage_congr h5
  intro u v t
  unfold AgentTaskJobsEdgeSpec
  simp only [or_assoc]

set_option linter.unusedVariables false in
/-- **C16 (agent-task graph with jobs: exactly the prescribed edges).**  (`Valid I` is not needed.) -/
theorem C16_agentTaskJobs_edges (I : Instance) (hv : Valid I) (u v : Nat) (t : EType) :
    (u, v, t) ∈ (buildAgentTaskJobs I).edges ↔ AgentTaskJobsEdgeSpec I u v t :=
  stage_edges (stage_agentTaskJobs I) u v t

/-- **Specification of the complete agent-task graph** (nodes: operations, machine `m` at `numOps I + m`, job `j` at
`numOps I + numMachines I + j`, the global node at `numOps I + numMachines I + I.length`): untyped edges
operation ↔ eligible machine, operation ↔ its job, global ↔ every machine, global ↔ every job; nothing else. -/
def CompleteAgentTaskEdgeSpec (I : Instance) (u v : Nat) (t : EType) : Prop :=
  (OpMachEdge I u v ∨ OpJobEdge I u v ∨ GlobalMachEdge I u v ∨ GlobalJobEdge I u v) ∧ t = .untyped

theorem stage_completeAgentTask (I : Instance) :
    Stage (buildCompleteAgentTask I) (opsL I ++ machsL I ++ jobsL I ++ [.global]) (CompleteAgentTaskEdgeSpec I) := by
  have h4 := stage_opJob I (stage_opMach I)
  have h5 := stage_step (globalList I) (stage_addNode h4 .global) (addGlobal_fold I _ h4.nodes) (mem_globalList I)
    (fun u v h => by
      rw [List.length_append, length_opsL_machsL_jobsL]; exact globalEdge_lt h)
  unfold buildCompleteAgentTask
  apply stage_congr h5
  intro u v t
  unfold CompleteAgentTaskEdgeSpec
  simp only [or_assoc]

set_option linter.unusedVariables false in
/-- **C16 (complete agent-task graph: exactly the prescribed edges).**  (`Valid I` is not needed.) -/
theorem C16_completeAgentTask_edges (I : Instance) (hv : Valid I) (u v : Nat) (t : EType) :
    (u, v, t) ∈ (buildCompleteAgentTask I).edges ↔ CompleteAgentTaskEdgeSpec I u v t :=
  stage_edges (stage_completeAgentTask I) u v t

def nodesOf : Builder → Instance → List NodeKind
  | .disjunctive, I => opsL I ++ [.source, .sink]
  | .agentTask, I => opsL I ++ machsL I
  | .agentTaskJobs, I => opsL I ++ machsL I ++ jobsL I
  | .completeAgentTask, I => opsL I ++ machsL I ++ jobsL I ++ [.global]

def EdgeSpecOf : Builder → Instance → Nat → Nat → EType → Prop
  | .disjunctive => DisjEdgeSpec
  | .agentTask => AgentTaskEdgeSpec
  | .agentTaskJobs => AgentTaskJobsEdgeSpec
  | .completeAgentTask => CompleteAgentTaskEdgeSpec

theorem stage_build : ∀ (b : Builder) (I : Instance), Stage (build b I) (nodesOf b I) (EdgeSpecOf b I)
  | .disjunctive, I => stage_disjunctive I
  | .agentTask, I => stage_agentTask I
  | .agentTaskJobs, I => stage_agentTaskJobs I
  | .completeAgentTask, I => stage_completeAgentTask I

theorem nodesOf_ops : ∀ (b : Builder) (I : Instance), ∃ t, nodesOf b I = opsL I ++ t
  | .disjunctive, _ => ⟨_, rfl⟩
  | .agentTask, _ => ⟨_, rfl⟩
  | .agentTaskJobs, _ => ⟨_, List.append_assoc ..⟩
  | .completeAgentTask, I => ⟨machsL I ++ (jobsL I ++ [.global]), by simp only [nodesOf, List.append_assoc]⟩

theorem nodesOf_machs : ∀ (b : Builder) (I : Instance), b ≠ .disjunctive → ∃ t, nodesOf b I = opsL I ++ machsL I ++ t
  | .disjunctive, _, h => absurd rfl h
  | .agentTask, _, _ => ⟨[], (List.append_nil _).symm⟩
  | .agentTaskJobs, _, _ => ⟨_, rfl⟩
  | .completeAgentTask, _, _ => ⟨_, List.append_assoc ..⟩

theorem nodesOf_jobs (b : Builder) (I : Instance) (hb : b = .agentTaskJobs ∨ b = .completeAgentTask) :
    ∃ t, nodesOf b I = opsL I ++ machsL I ++ jobsL I ++ t := by
  rcases hb with rfl | rfl
  · exact ⟨[], (List.append_nil _).symm⟩
  · exact ⟨_, rfl⟩

theorem edgeSpecOf_opMach : ∀ (b : Builder) (I : Instance) {u v : Nat}, b ≠ .disjunctive → OpMachEdge I u v →
    EdgeSpecOf b I u v .untyped
  | .disjunctive, _, _, _, hb, _ => absurd rfl hb
  | .agentTask, _, _, _, _, h => ⟨Or.inl h, rfl⟩
  | .agentTaskJobs, _, _, _, _, h => ⟨Or.inl h, rfl⟩
  | .completeAgentTask, _, _, _, _, h => ⟨Or.inl h, rfl⟩

theorem edgeSpecOf_opJob {b : Builder} {I : Instance} {u v : Nat} (hb : b = .agentTaskJobs ∨ b = .completeAgentTask)
    (h : OpJobEdge I u v) : EdgeSpecOf b I u v .untyped := by
  rcases hb with rfl | rfl
  · exact ⟨Or.inr (Or.inr (Or.inl h)), rfl⟩
  · exact ⟨Or.inr (Or.inl h), rfl⟩

/-- **C16 (one entry per edge).** In every built graph each ordered pair `(u, v)` occurs at most once in the edge
list, so an edge has exactly one type. -/
theorem C16_edges_nodup (b : Builder) (I : Instance) :
    ((build b I).edges.map fun e => (e.1, e.2.1)).Nodup :=
  stage_edges_nodup (stage_build b I)

theorem C16_edge_type_unique (b : Builder) (I : Instance) (u v : Nat) (t t' : EType)
    (h1 : (u, v, t) ∈ (build b I).edges) (h2 : (u, v, t') ∈ (build b I).edges) : t = t' :=
  stage_type_unique (stage_build b I) ((stage_edges (stage_build b I) u v t).1 h1)
    ((stage_edges (stage_build b I) u v t').1 h2)

end JS
