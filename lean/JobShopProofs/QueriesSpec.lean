import JobShopModel.Events
/-!
# The memo table is coherent

`CacheOK c s`: every filled slot of `Dispatcher._cache` holds the value its method body computes from
the current tracking vectors and schedule.  Every cached method returns that value, keeps `CacheOK`, and
touches nothing but the memo table.
-/
namespace JS

def setCache (s : State) (k : Cache) : State := { s with cache := k }

@[simp] theorem setCache_sched (s k) : (setCache s k).sched = s.sched := rfl
@[simp] theorem setCache_machNext (s k) : (setCache s k).machNext = s.machNext := rfl
@[simp] theorem setCache_jobIdx (s k) : (setCache s k).jobIdx = s.jobIdx := rfl
@[simp] theorem setCache_jobNext (s k) : (setCache s k).jobNext = s.jobNext := rfl
@[simp] theorem setCache_cache (s k) : (setCache s k).cache = k := rfl
@[simp] theorem setCache_setCache (s k k') : setCache (setCache s k) k' = setCache s k' := rfl

@[simp] theorem rawReady_setCache (I s k) : rawReady I (setCache s k) = rawReady I s := rfl
@[simp] theorem minStart_setCache (I s k L) : minStart I (setCache s k) L = minStart I s L := by
  cases L <;> rfl
@[simp] theorem applyFilter_setCache (I s k f L) : applyFilter I (setCache s k) f L = applyFilter I s f L := by
  cases f <;> rfl
@[simp] theorem applyFilters_setCache (I s k fs L) : applyFilters I (setCache s k) fs L = applyFilters I s fs L := by
  simp only [applyFilters, applyFilter_setCache]
@[simp] theorem applyCfg_setCache (I s k F L) : applyCfg I (setCache s k) F L = applyCfg I s F L := by
  cases F <;> simp [applyCfg]
@[simp] theorem availablePure_setCache (c s k) : availablePure c (setCache s k) = availablePure c s := by
  simp [availablePure]
@[simp] theorem currentTimePure_setCache (c s k) : currentTimePure c (setCache s k) = currentTimePure c s := by
  simp [currentTimePure]
@[simp] theorem unscheduledPure_setCache (I s k) : unscheduledPure I (setCache s k) = unscheduledPure I s := rfl
@[simp] theorem scheduledPure_setCache (I s k) : scheduledPure I (setCache s k) = scheduledPure I s := rfl
@[simp] theorem availableMachinesPure_setCache (c s k) :
    availableMachinesPure c (setCache s k) = availableMachinesPure c s := by simp [availableMachinesPure]
@[simp] theorem availableJobsPure_setCache (c s k) :
    availableJobsPure c (setCache s k) = availableJobsPure c s := by simp [availableJobsPure]
@[simp] theorem ongoingAt_setCache (s k t) : ongoingAt (setCache s k) t = ongoingAt s t := rfl
@[simp] theorem ongoingPure_setCache (c s k) : ongoingPure c (setCache s k) = ongoingPure c s := by
  simp [ongoingPure]
@[simp] theorem completedPure_setCache (c s k) : completedPure c (setCache s k) = completedPure c s := by
  simp [completedPure]
@[simp] theorem uncompletedPure_setCache (c s k) : uncompletedPure c (setCache s k) = uncompletedPure c s := by
  simp [uncompletedPure]

structure CacheOK (c : Cfg) (s : State) : Prop where
  currentTime : ∀ v, s.cache.currentTime = some v → v = currentTimePure c s
  available : ∀ v, s.cache.available = some v → v = availablePure c s
  rawReady : ∀ v, s.cache.rawReady = some v → v = rawReady c.I s
  unscheduled : ∀ v, s.cache.unscheduled = some v → v = unscheduledPure c.I s
  scheduled : ∀ v, s.cache.scheduled = some v → v = scheduledPure c.I s
  availableMachines : ∀ v, s.cache.availableMachines = some v → v = availableMachinesPure c s
  availableJobs : ∀ v, s.cache.availableJobs = some v → v = availableJobsPure c s
  completed : ∀ v, s.cache.completed = some v → v = completedPure c s
  uncompleted : ∀ v, s.cache.uncompleted = some v → v = uncompletedPure c s
  ongoing : ∀ v, s.cache.ongoing = some v → v = ongoingPure c s

theorem cacheOK_empty (c : Cfg) (s : State) (h : s.cache = {}) : CacheOK c s := by
  constructor <;> intro v hv <;> simp [h] at hv

/-- result of a cached method: right value, memo still coherent, only the memo changed -/
structure QOk {α} (c : Cfg) (s : State) (r : α × State) (v : α) : Prop where
  val : r.1 = v
  ok : CacheOK c r.2
  core : ∃ k, r.2 = setCache s k

theorem QOk.pure {α} {c : Cfg} {s : State} (h : CacheOK c s) (a : α) : QOk c s (a, s) a := ⟨rfl, h, ⟨s.cache, rfl⟩⟩

theorem QOk.map {α β} {c : Cfg} {s : State} {r : α × State} {v : α} (h : QOk c s r v) (f : α → β) :
    QOk c s (f r.1, r.2) (f v) := ⟨congrArg f h.val, h.ok, h.core⟩

theorem cacheOK_set {c : Cfg} {s : State} {k : Cache} (h : CacheOK c (setCache s k)) : CacheOK c (setCache s k) := h

theorem cacheOK_setCache {c : Cfg} {s : State} {k : Cache} : CacheOK c (setCache s k) ↔
    (∀ v, k.currentTime = some v → v = currentTimePure c s) ∧
    (∀ v, k.available = some v → v = availablePure c s) ∧
    (∀ v, k.rawReady = some v → v = JS.rawReady c.I s) ∧
    (∀ v, k.unscheduled = some v → v = unscheduledPure c.I s) ∧
    (∀ v, k.scheduled = some v → v = scheduledPure c.I s) ∧
    (∀ v, k.availableMachines = some v → v = availableMachinesPure c s) ∧
    (∀ v, k.availableJobs = some v → v = availableJobsPure c s) ∧
    (∀ v, k.completed = some v → v = completedPure c s) ∧
    (∀ v, k.uncompleted = some v → v = uncompletedPure c s) ∧
    (∀ v, k.ongoing = some v → v = ongoingPure c s) :=
  ⟨fun h => ⟨currentTimePure_setCache c s k ▸ h.currentTime, availablePure_setCache c s k ▸ h.available, h.rawReady,
      h.unscheduled, h.scheduled, availableMachinesPure_setCache c s k ▸ h.availableMachines,
      availableJobsPure_setCache c s k ▸ h.availableJobs, completedPure_setCache c s k ▸ h.completed,
      uncompletedPure_setCache c s k ▸ h.uncompleted, ongoingPure_setCache c s k ▸ h.ongoing⟩,
    fun ⟨h1, h2, h3, h4, h5, h6, h7, h8, h9, h10⟩ =>
      ⟨currentTimePure_setCache c s k ▸ h1, availablePure_setCache c s k ▸ h2, h3, h4, h5,
        availableMachinesPure_setCache c s k ▸ h6, availableJobsPure_setCache c s k ▸ h7,
        completedPure_setCache c s k ▸ h8, uncompletedPure_setCache c s k ▸ h9, ongoingPure_setCache c s k ▸ h10⟩⟩

theorem state_eq_setCache (s : State) : s = setCache s s.cache := rfl

/-- a slot together with the pure value it is supposed to hold -/
structure SlotSpec {α} (c : Cfg) (sl : Slot α) (pv : State → α) : Prop where
  read : ∀ s v, CacheOK c s → sl.get s.cache = some v → v = pv s
  write : ∀ s k, CacheOK c (setCache s k) → CacheOK c (setCache s (sl.set k (pv s)))

/-- The `_dispatcher_cache` decorator is transparent: if the body computes the pure value, so does
the cached method, and the memo stays coherent. -/
theorem memo_ok {α} {c : Cfg} {sl : Slot α} {pv : State → α} (hs : SlotSpec c sl pv)
    {body : State → α × State} (s : State) (h : CacheOK c s)
    (hb : QOk c s (body s) (pv s)) : QOk c s (memo sl body s) (pv s) := by
  unfold memo
  split
  · rename_i v hv
    exact ⟨hs.read s v h hv, h, ⟨s.cache, rfl⟩⟩
  · obtain ⟨hv, hok, k, hk⟩ := hb
    refine ⟨hv, ?_, ⟨sl.set k (pv s), ?_⟩⟩
    · simp only
      rw [hk] at hok ⊢
      rw [hv]
      exact hs.write s k hok
    · simp only; rw [hk, hv]; rfl

/-! Each slot: reading is the slot's field of `CacheOK`; writing touches that field only. -/

theorem slotRawReady_spec (c : Cfg) : SlotSpec c slotRawReady (fun s => rawReady c.I s) :=
  ⟨fun _ v h hv => h.rawReady v hv, fun _ _ h =>
    let ⟨h1, h2, _, h4, h5, h6, h7, h8, h9, h10⟩ := cacheOK_setCache.1 h
    cacheOK_setCache.2 ⟨h1, h2, fun _ hv => (Option.some.inj hv).symm, h4, h5, h6, h7, h8, h9, h10⟩⟩

theorem slotAvailable_spec (c : Cfg) : SlotSpec c slotAvailable (fun s => availablePure c s) :=
  ⟨fun _ v h hv => h.available v hv, fun _ _ h =>
    let ⟨h1, _, h3, h4, h5, h6, h7, h8, h9, h10⟩ := cacheOK_setCache.1 h
    cacheOK_setCache.2 ⟨h1, fun _ hv => (Option.some.inj hv).symm, h3, h4, h5, h6, h7, h8, h9, h10⟩⟩

theorem slotCurrentTime_spec (c : Cfg) : SlotSpec c slotCurrentTime (fun s => currentTimePure c s) :=
  ⟨fun _ v h hv => h.currentTime v hv, fun _ _ h =>
    let ⟨_, h2, h3, h4, h5, h6, h7, h8, h9, h10⟩ := cacheOK_setCache.1 h
    cacheOK_setCache.2 ⟨fun _ hv => (Option.some.inj hv).symm, h2, h3, h4, h5, h6, h7, h8, h9, h10⟩⟩

theorem slotUnscheduled_spec (c : Cfg) : SlotSpec c slotUnscheduled (fun s => unscheduledPure c.I s) :=
  ⟨fun _ v h hv => h.unscheduled v hv, fun _ _ h =>
    let ⟨h1, h2, h3, _, h5, h6, h7, h8, h9, h10⟩ := cacheOK_setCache.1 h
    cacheOK_setCache.2 ⟨h1, h2, h3, fun _ hv => (Option.some.inj hv).symm, h5, h6, h7, h8, h9, h10⟩⟩

theorem slotScheduled_spec (c : Cfg) : SlotSpec c slotScheduled (fun s => scheduledPure c.I s) :=
  ⟨fun _ v h hv => h.scheduled v hv, fun _ _ h =>
    let ⟨h1, h2, h3, h4, _, h6, h7, h8, h9, h10⟩ := cacheOK_setCache.1 h
    cacheOK_setCache.2 ⟨h1, h2, h3, h4, fun _ hv => (Option.some.inj hv).symm, h6, h7, h8, h9, h10⟩⟩

theorem slotAvailableMachines_spec (c : Cfg) : SlotSpec c slotAvailableMachines (fun s => availableMachinesPure c s) :=
  ⟨fun _ v h hv => h.availableMachines v hv, fun _ _ h =>
    let ⟨h1, h2, h3, h4, h5, _, h7, h8, h9, h10⟩ := cacheOK_setCache.1 h
    cacheOK_setCache.2 ⟨h1, h2, h3, h4, h5, fun _ hv => (Option.some.inj hv).symm, h7, h8, h9, h10⟩⟩

theorem slotAvailableJobs_spec (c : Cfg) : SlotSpec c slotAvailableJobs (fun s => availableJobsPure c s) :=
  ⟨fun _ v h hv => h.availableJobs v hv, fun _ _ h =>
    let ⟨h1, h2, h3, h4, h5, h6, _, h8, h9, h10⟩ := cacheOK_setCache.1 h
    cacheOK_setCache.2 ⟨h1, h2, h3, h4, h5, h6, fun _ hv => (Option.some.inj hv).symm, h8, h9, h10⟩⟩

theorem slotCompleted_spec (c : Cfg) : SlotSpec c slotCompleted (fun s => completedPure c s) :=
  ⟨fun _ v h hv => h.completed v hv, fun _ _ h =>
    let ⟨h1, h2, h3, h4, h5, h6, h7, _, h9, h10⟩ := cacheOK_setCache.1 h
    cacheOK_setCache.2 ⟨h1, h2, h3, h4, h5, h6, h7, fun _ hv => (Option.some.inj hv).symm, h9, h10⟩⟩

theorem slotUncompleted_spec (c : Cfg) : SlotSpec c slotUncompleted (fun s => uncompletedPure c s) :=
  ⟨fun _ v h hv => h.uncompleted v hv, fun _ _ h =>
    let ⟨h1, h2, h3, h4, h5, h6, h7, h8, _, h10⟩ := cacheOK_setCache.1 h
    cacheOK_setCache.2 ⟨h1, h2, h3, h4, h5, h6, h7, h8, fun _ hv => (Option.some.inj hv).symm, h10⟩⟩

theorem slotOngoing_spec (c : Cfg) : SlotSpec c slotOngoing (fun s => ongoingPure c s) :=
  ⟨fun _ v h hv => h.ongoing v hv, fun _ _ h =>
    let ⟨h1, h2, h3, h4, h5, h6, h7, h8, h9, _⟩ := cacheOK_setCache.1 h
    cacheOK_setCache.2 ⟨h1, h2, h3, h4, h5, h6, h7, h8, h9, fun _ hv => (Option.some.inj hv).symm⟩⟩

theorem qRawReady_ok (c : Cfg) (s : State) (h : CacheOK c s) : QOk c s (qRawReady c s) (rawReady c.I s) :=
  memo_ok (slotRawReady_spec c) s h (.pure h _)

theorem qUnscheduled_ok (c : Cfg) (s : State) (h : CacheOK c s) :
    QOk c s (qUnscheduled c s) (unscheduledPure c.I s) :=
  memo_ok (slotUnscheduled_spec c) s h (.pure h _)

theorem qScheduled_ok (c : Cfg) (s : State) (h : CacheOK c s) :
    QOk c s (qScheduled c s) (scheduledPure c.I s) :=
  memo_ok (slotScheduled_spec c) s h (.pure h _)

theorem qAvailable_ok (c : Cfg) (s : State) (h : CacheOK c s) : QOk c s (qAvailable c s) (availablePure c s) := by
  apply memo_ok (slotAvailable_spec c) s h
  obtain ⟨hv, hok, k, hk⟩ := qRawReady_ok c s h
  refine ⟨?_, hok, ⟨k, hk⟩⟩
  simp only [hv, hk, applyCfg_setCache, availablePure]

theorem qCurrentTime_ok (c : Cfg) (s : State) (h : CacheOK c s) :
    QOk c s (qCurrentTime c s) (currentTimePure c s) := by
  apply memo_ok (slotCurrentTime_spec c) s h
  obtain ⟨hv, hok, k, hk⟩ := qAvailable_ok c s h
  refine ⟨?_, hok, ⟨k, hk⟩⟩
  simp only [hv, hk, minStart_setCache, currentTimePure]

theorem qAvailableMachines_ok (c : Cfg) (s : State) (h : CacheOK c s) :
    QOk c s (qAvailableMachines c s) (availableMachinesPure c s) :=
  memo_ok (slotAvailableMachines_spec c) s h ((qAvailable_ok c s h).map fun l =>
    sortDedup (l.flatMap fun x => match getOp c.I x.1 x.2 with | some op => op.machines | none => []))

theorem qAvailableJobs_ok (c : Cfg) (s : State) (h : CacheOK c s) :
    QOk c s (qAvailableJobs c s) (availableJobsPure c s) :=
  memo_ok (slotAvailableJobs_spec c) s h ((qAvailable_ok c s h).map fun l => sortDedup (l.map (·.1)))

theorem qOngoing_ok (c : Cfg) (s : State) (h : CacheOK c s) : QOk c s (qOngoing c s) (ongoingPure c s) := by
  apply memo_ok (slotOngoing_spec c) s h
  obtain ⟨hv, hok, k, hk⟩ := qCurrentTime_ok c s h
  refine ⟨?_, hok, ⟨k, hk⟩⟩
  simp only [hv, hk, ongoingAt_setCache, ongoingPure]

theorem qCompleted_ok (c : Cfg) (s : State) (h : CacheOK c s) :
    QOk c s (qCompleted c s) (completedPure c s) := by
  apply memo_ok (slotCompleted_spec c) s h
  obtain ⟨hv1, hok1, k1, hk1⟩ := qScheduled_ok c s h
  obtain ⟨hv2, hok2, k2, hk2⟩ := qOngoing_ok c (qScheduled c s).2 hok1
  refine ⟨?_, hok2, ⟨k2, ?_⟩⟩
  · rw [hk1] at hv2
    simp only [hv1, hk1, hv2, ongoingPure_setCache, completedPure]
  · rw [hk1] at hk2
    simp only [hk1, hk2, setCache_setCache]

theorem qUncompleted_ok (c : Cfg) (s : State) (h : CacheOK c s) :
    QOk c s (qUncompleted c s) (uncompletedPure c s) := by
  apply memo_ok (slotUncompleted_spec c) s h
  obtain ⟨hv1, hok1, k1, hk1⟩ := qUnscheduled_ok c s h
  obtain ⟨hv2, hok2, k2, hk2⟩ := qOngoing_ok c (qUnscheduled c s).2 hok1
  refine ⟨?_, hok2, ⟨k2, ?_⟩⟩
  · rw [hk1] at hv2
    simp only [hv1, hk1, hv2, ongoingPure_setCache, uncompletedPure]
  · rw [hk1] at hk2
    simp only [hk1, hk2, setCache_setCache]

theorem findSOp_setCache (s k r) : findSOp (setCache s k) r = findSOp s r := rfl

/-- `spec` is a function of the tracking vectors and the schedule only: it ignores the memo. -/
theorem C05_spec_ignores_memo (c : Cfg) (s : State) (k : Cache) (q : Query) :
    spec c (setCache s k) q = spec c s q := by
  cases q <;> simp [spec, findSOp_setCache] <;> rfl

/-- **The method call agrees with the from-scratch answer** whenever the memo is coherent; it keeps the
memo coherent and changes nothing else. -/
theorem ask_ok (c : Cfg) (s : State) (h : CacheOK c s) (q : Query) : QOk c s (ask c s q) (spec c s q) := by
  cases q with
  | currentTime => exact (qCurrentTime_ok c s h).map Answer.int
  | available => exact (qAvailable_ok c s h).map Answer.refs
  | rawReady => exact (qRawReady_ok c s h).map Answer.refs
  | unscheduled => exact (qUnscheduled_ok c s h).map Answer.refs
  | scheduled => exact (qScheduled_ok c s h).map Answer.refs
  | uncompleted => exact (qUncompleted_ok c s h).map Answer.refs
  | completed => exact (qCompleted_ok c s h).map Answer.refs
  | availableMachines => exact (qAvailableMachines_ok c s h).map Answer.nats
  | availableJobs => exact (qAvailableJobs_ok c s h).map Answer.nats
  | ongoing => exact (qOngoing_ok c s h).map Answer.sops
  | makespan => exact .pure h _
  | isComplete => exact .pure h _
  | numScheduled => exact .pure h _
  | isScheduled r => exact .pure h _
  | nextOperation j => exact .pure h _
  | earliestStart r => exact .pure h _
  | startTime r m => exact .pure h _
  | minStart L => exact .pure h _
  | isOngoing r =>
    simp only [ask, spec]
    cases findSOp s r with
    | none => exact .pure h _
    | some x => exact (qCurrentTime_ok c s h).map fun t => Answer.bool (decide (x.start ≤ t))
  | remainingDuration r =>
    simp only [ask, spec]
    cases findSOp s r with
    | none => exact .pure h _
    | some x => exact (qCurrentTime_ok c s h).map fun t => Answer.int (x.end_ - max x.start t)

end JS
