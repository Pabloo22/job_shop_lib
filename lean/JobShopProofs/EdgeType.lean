import JobShopProofs.Properties.C17
/-!
# Edge types: the last insertion decides

`JobShopGraph.add_edge` on an existing edge overwrites its attributes.  `build_disjunctive_graph` adds the
disjunctive edges first and the conjunctive job-chain edges afterwards, so a job's consecutive operations that share
a machine end up connected by a *conjunctive* edge in job direction (the reverse edge stays disjunctive).
-/
namespace JS

/-- **C16 (job-chain edges are conjunctive).** In `build_disjunctive_graph(I)`, for every two consecutive operations of
a job the edge from the earlier to the later one exists, is typed conjunctive, and carries no other type — also when
both run on the same machine, where a disjunctive edge between them had been added first. -/
theorem C16_conjunctive_typed (I : Instance) (j p : Nat) (hp : p + 1 < (I.getD j []).length) (hj : j < I.length) :
    let g := buildDisjunctive I
    let a := opId I (j, p)
    let b := opId I (j, p + 1)
    (a, b, EType.conjunctive) ∈ g.edges ∧ ∀ t, (a, b, t) ∈ g.edges → t = .conjunctive := by
  intro g a b
  have st := stage_disjunctive I
  have hs : DisjEdgeSpec I a b .conjunctive :=
    Or.inl ⟨(j, p), (mem_allOps_iff I j p).2 ⟨hj, by omega⟩, (j, p + 1), (mem_allOps_iff I j (p + 1)).2 ⟨hj, hp⟩,
      jobSucc_ne ⟨rfl, rfl⟩, rfl, rfl, Or.inl ⟨⟨rfl, rfl⟩, rfl⟩⟩
  exact ⟨(stage_edges st a b _).2 hs, fun t ht => stage_type_unique st ((stage_edges st a b t).1 ht) hs⟩

end JS
