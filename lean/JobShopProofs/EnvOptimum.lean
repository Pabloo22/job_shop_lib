import JobShopProofs.EnvRejected
import JobShopProofs.ObserversTransparent
import JobShopProofs.Properties.C08
/-!
# C08 end to end through the environment

`C08_pruned_reaches_concrete` is about the bare dispatcher.  Here the same through the Gymnasium environment (`Env`) configured
with the dominated-operations filter: an agent that only ever chooses among the available operations the environment reports
(`info["available_operations"]` = `availablePure` of the current dispatcher state) reaches a schedule at least as good as any
feasible complete assignment; every one of its steps is accepted (none raises), and the run ends complete (the last step reports
`done`).  Conversely the final state of any run of the environment is a reachable dispatcher state, so a complete one yields a
feasible complete assignment: with the filter installed the environment reaches makespan `≤ B` iff some feasible complete
assignment finishes by `B`.
-/
namespace JS

theorem availablePure_dominated (c : Cfg) (hdom : c.F = some [.dominated]) (s : State) :
    availablePure c s = filterDominated c.I s (rawReady c.I s) := by
  simp only [availablePure, hdom, applyCfg, applyFilters, List.foldl_cons, List.foldl_nil, applyFilter]

theorem natCast_beq_neg_one (m : Nat) : ((m : Int) == -1) = false := by
  simp only [beq_eq_false_iff_ne, ne_eq]; omega

theorem Env.step_of_dispatch (e : Env) (j p m : Nat) (s' : State) (hd : dispatch e.w.cfg.I e.w.s j p m = .ok s') :
    (e.step j (m : Int)).1.w.cfg = e.w.cfg ∧ (e.step j (m : Int)).1.w.s = s' ∧ e.legal j (m : Int) = true ∧
      e.w.s.jobIdx.getD j 0 = p := by
  obtain ⟨op, hsp⟩ := dispatch_ok hd
  have hidx := hsp.hidx
  have hop : getOp e.w.cfg.I j (e.w.s.jobIdx.getD j 0) = some op := by rw [hidx]; exact hsp.hop
  have hreq : dispatchReq e.w.cfg.I e.w.s j (e.w.s.jobIdx.getD j 0) (some (m : Int)) = .ok s' := by
    rw [hidx]
    unfold dispatchReq
    simp only [hsp.hop, hidx, ne_eq, not_true_eq_false, ↓reduceIte, resolveMachine_natCast hsp.hm]
    exact hd
  have hmach : (if ((m : Int) == -1) = true then (none : Option Int) else some (m : Int)) = some (m : Int) := by
    rw [natCast_beq_neg_one]; rfl
  obtain ⟨hcfg, hs⟩ := FWorld.dispatch_s e.w j (e.w.s.jobIdx.getD j 0) (some (m : Int))
  rw [show stepEv e.w.cfg e.w.s (.disp j (e.w.s.jobIdx.getD j 0) (some (m : Int))) = (s', .ok) by
    simp only [stepEv, hreq]] at hs
  rcases hdd : e.w.dispatch j (e.w.s.jobIdx.getD j 0) (some (m : Int)) with ⟨w', b⟩
  obtain rfl : b = true := by rw [← (e.w.dispatch_accepted _ _ _).2 ⟨s', hreq⟩, hdd]
  rw [hdd] at hcfg hs
  obtain ⟨hw', _⟩ := Env.step_of_accepted e j (m : Int) op w' hop (hmach ▸ hdd)
  refine ⟨by rw [hw']; exact hcfg, by rw [hw']; exact hs, ?_, hidx⟩
  unfold Env.legal
  rw [hop]
  simp only [natCast_beq_neg_one, Bool.false_eq_true, ↓reduceIte, Int.toNat_natCast, Bool.and_eq_true,
    decide_eq_true_eq, List.contains_iff_mem]
  exact ⟨by omega, hsp.hm⟩

/-- the decisions an agent makes to follow a dispatch history: job and explicit machine id -/
def actsOf (h : List (Nat × Nat × Nat)) : List (Nat × Int) := h.map fun x => (x.1, (x.2.2 : Int))

/-- the events of a list of decisions -/
def stepEvs (acts : List (Nat × Int)) : List EnvEv := acts.map fun a => EnvEv.step a.1 a.2

theorem forall_take_snoc {α} {P : List α → α → Prop} (l : List α) (x : α)
    (hl : ∀ k, (hk : k < l.length) → P (l.take k) l[k]) (hx : P l x) :
    ∀ k, (hk : k < (l ++ [x]).length) → P ((l ++ [x]).take k) (l ++ [x])[k] := by
  intro k hk
  rw [List.length_append, List.length_singleton] at hk
  by_cases hlt : k < l.length
  · rw [List.take_append_of_le_length (Nat.le_of_lt hlt), List.getElem_append_left hlt]
    exact hl k hlt
  · have hke : k = l.length := by omega
    subst hke
    rw [List.take_left' rfl, List.getElem_concat_length rfl]
    exact hx

/-- following a filtered dispatch history through the environment: the dispatcher inside moves along the history, every
decision is among the available operations reported, no step raises -/
theorem env_follows_fhist (c : Cfg) (hv : Valid c.I) (hdom : c.F = some [.dominated])
    (ec : EnvCfg) (e0 : Env) (hf : FeatsOK ec.feats) (hpad : ec.usePadding = true) (hmk : Env.make c ec = some e0)
    {h : List (Nat × Nat × Nat)} {s : State} (hh : FHist c.I h s) :
    (e0.runEvs (stepEvs (actsOf h))).w.cfg = c ∧ (e0.runEvs (stepEvs (actsOf h))).w.s = s ∧
    ∀ k, (hk : k < (actsOf h).length) →
      let e := e0.runEvs (stepEvs ((actsOf h).take k))
      ((actsOf h)[k].1, e.w.s.jobIdx.getD (actsOf h)[k].1 0) ∈ availablePure e.w.cfg e.w.s ∧
      (e.step (actsOf h)[k].1 (actsOf h)[k].2).2 ≠ .raised := by
  induction hh with
  | nil =>
    obtain ⟨h1, h2⟩ := (Env.make_good hmk).st
    exact ⟨h1, h2, fun k hk => nomatch hk⟩
  | @snoc h s s' j p m _ hmem hd ih =>
    obtain ⟨icfg, ist, iall⟩ := ih
    have hacts : actsOf (h ++ [(j, p, m)]) = actsOf h ++ [(j, (m : Int))] := List.map_append
    have hevs : stepEvs (actsOf h ++ [(j, (m : Int))]) = stepEvs (actsOf h) ++ [EnvEv.step j (m : Int)] := List.map_append
    obtain ⟨s1, s2, s3, s4⟩ := Env.step_of_dispatch (e0.runEvs (stepEvs (actsOf h))) j p m s' (by rw [icfg, ist]; exact hd)
    rw [hacts, hevs, Env.runEvs_append, Env.runEvs_step]
    refine ⟨s1.trans icfg, s2, ?_⟩
    · exact forall_take_snoc (P := fun pre a =>
          let e := e0.runEvs (stepEvs pre)
          (a.1, e.w.s.jobIdx.getD a.1 0) ∈ availablePure e.w.cfg e.w.s ∧ (e.step a.1 a.2).2 ≠ .raised)
        (actsOf h) (j, (m : Int)) iall
        ⟨by
          show (j, (e0.runEvs (stepEvs (actsOf h))).w.s.jobIdx.getD j 0) ∈ availablePure _ _
          rw [s4, icfg, ist, availablePure_dominated c hdom]
          exact hmem,
        fun hr => by
          have := (C09_env_raises_iff_illegal c hv ec e0 hf hpad hmk (stepEvs (actsOf h)) j (m : Int)).1 hr
          rw [s3] at this
          cases this⟩

/-- **C08 through the environment.**  For every valid instance with positive durations, the environment built by the constructor
with the dominated-operations filter (any admissible feature configuration, padding on), and every feasible complete assignment
`T` finishing by `B`: there is a sequence of decisions, each naming a job whose next operation is among the available operations the
environment reports at that moment (with an eligible machine of it), each accepted by `step` (no raise), after which the schedule
is complete (so the last step reported `done`) with makespan `≤ max 0 B`. -/
theorem C08_env_reaches (c : Cfg) (hv : Valid c.I) (hp : PosDurI c.I) (hdom : c.F = some [.dominated])
    (ec : EnvCfg) (e0 : Env) (hf : FeatsOK ec.feats) (hpad : ec.usePadding = true) (hmk : Env.make c ec = some e0)
    (T : Asg) (hT : FeasT c.I T) (B : Int) (hB : BoundT c.I T B) :
    ∃ acts : List (Nat × Int),
      (∀ k, (hk : k < acts.length) →
          let e := e0.runEvs ((acts.take k).map fun a => EnvEv.step a.1 a.2)
          (acts[k].1, e.w.s.jobIdx.getD acts[k].1 0) ∈ availablePure e.w.cfg e.w.s ∧
          (e.step acts[k].1 acts[k].2).2 ≠ .raised) ∧
      (let e := e0.runEvs (acts.map fun a => EnvEv.step a.1 a.2)
       isComplete c.I e.w.s = true ∧ makespan e.w.s ≤ max 0 B) := by
  obtain ⟨h, s, hh, hcomp, hmks⟩ := C08_pruned_reaches_concrete c.I hv hp T hT B hB
  obtain ⟨_, hst, hall⟩ := env_follows_fhist c hv hdom ec e0 hf hpad hmk hh
  refine ⟨actsOf h, hall, ?_⟩
  show isComplete c.I (e0.runEvs (stepEvs (actsOf h))).w.s = true ∧ makespan (e0.runEvs (stepEvs (actsOf h))).w.s ≤ max 0 B
  rw [hst]
  exact ⟨hcomp, hmks⟩

/-- the last step of a complete run reports `done`: an accepted step returns `done = isComplete` of the state it reaches -/
theorem C08_env_last_done (e : Env) (job : Nat) (machine : Int) (hnr : (e.step job machine).2 ≠ .raised)
    (hcomp : isComplete (e.step job machine).1.w.cfg.I (e.step job machine).1.w.s = true) :
    ∃ obs r av, (e.step job machine).2 = .ok obs r true false av := by
  cases hs : (e.step job machine).2 with
  | raised => exact absurd hs hnr
  | ok obs r d t av =>
    obtain ⟨hd, ht⟩ := C18_done_truncated e job machine obs r d t av hs
    rw [hcomp] at hd
    subst hd; subst ht
    exact ⟨obs, r, av, rfl⟩

/-- **C08 through the environment, with the `done` flag.**  As `C08_env_reaches`, and moreover the last step of the run returns
`done = True` (and `truncated = False`): the episode ends exactly there. -/
theorem C08_env_reaches_done (c : Cfg) (hv : Valid c.I) (hp : PosDurI c.I) (hdom : c.F = some [.dominated])
    (ec : EnvCfg) (e0 : Env) (hf : FeatsOK ec.feats) (hpad : ec.usePadding = true) (hmk : Env.make c ec = some e0)
    (T : Asg) (hT : FeasT c.I T) (B : Int) (hB : BoundT c.I T B) :
    ∃ acts : List (Nat × Int),
      (∀ k, (hk : k < acts.length) →
          let e := e0.runEvs ((acts.take k).map fun a => EnvEv.step a.1 a.2)
          (acts[k].1, e.w.s.jobIdx.getD acts[k].1 0) ∈ availablePure e.w.cfg e.w.s ∧
          (e.step acts[k].1 acts[k].2).2 ≠ .raised ∧
          (k + 1 = acts.length → ∃ obs r av, (e.step acts[k].1 acts[k].2).2 = .ok obs r true false av)) ∧
      (let e := e0.runEvs (acts.map fun a => EnvEv.step a.1 a.2)
       isComplete c.I e.w.s = true ∧ makespan e.w.s ≤ max 0 B) := by
  obtain ⟨acts, h1, h2⟩ := C08_env_reaches c hv hp hdom ec e0 hf hpad hmk T hT B hB
  refine ⟨acts, ?_, h2⟩
  intro k hk e
  obtain ⟨a1, a2⟩ := h1 k hk
  refine ⟨a1, a2, ?_⟩
  intro hlast
  apply C08_env_last_done e _ _ a2
  have hrun : (e.step acts[k].1 acts[k].2).1 = e0.runEvs (acts.map fun a => EnvEv.step a.1 a.2) := by
    have : acts = acts.take k ++ [acts[k]] := by
      rw [List.take_append_getElem hk, hlast, List.take_length]
    conv => rhs; rw [this]
    rw [List.map_append, Env.runEvs_append]
    rfl
  rw [hrun, (Env.runEvs_reach hf hmk _).cfg]
  exact h2.1

/-- converse: whatever the agent does (any steps, legal or not, any resets), the dispatcher state of the environment is a
reachable one; if it is complete, it is a feasible complete assignment finishing by its makespan -/
theorem C08_env_run_feasible (c : Cfg) (hv : Valid c.I) (ec : EnvCfg) (e0 : Env) (hf : FeatsOK ec.feats)
    (hmk : Env.make c ec = some e0) (evs : List EnvEv) (hcomp : isComplete c.I (e0.runEvs evs).w.s = true) :
    FeasT c.I (asgOf (e0.runEvs evs).w.s) ∧ BoundT c.I (asgOf (e0.runEvs evs).w.s) (makespan (e0.runEvs evs).w.s) := by
  exact asgOf_feasible hv ((Env.runEvs_reach hf hmk evs).cinv hv) hcomp

/-- **C08 through the environment (minimum = optimum).**  With the dominated-operations filter installed, for every bound `B ≥ 0`:
an agent choosing only among the reported available operations, all its steps accepted, can finish with makespan `≤ B` iff some
feasible complete assignment of machines and start times finishes everything by `B`. -/
theorem C08_env_min_iff (c : Cfg) (hv : Valid c.I) (hp : PosDurI c.I) (hdom : c.F = some [.dominated])
    (ec : EnvCfg) (e0 : Env) (hf : FeatsOK ec.feats) (hpad : ec.usePadding = true) (hmk : Env.make c ec = some e0)
    (B : Int) (hB : 0 ≤ B) :
    (∃ acts : List (Nat × Int),
      (∀ k, (hk : k < acts.length) →
          let e := e0.runEvs ((acts.take k).map fun a => EnvEv.step a.1 a.2)
          (acts[k].1, e.w.s.jobIdx.getD acts[k].1 0) ∈ availablePure e.w.cfg e.w.s ∧
          (e.step acts[k].1 acts[k].2).2 ≠ .raised) ∧
      (let e := e0.runEvs (acts.map fun a => EnvEv.step a.1 a.2)
       isComplete c.I e.w.s = true ∧ makespan e.w.s ≤ B)) ↔
    (∃ T, FeasT c.I T ∧ BoundT c.I T B) := by
  constructor
  · rintro ⟨acts, _, hcomp, hm⟩
    obtain ⟨hT, hBd⟩ := C08_env_run_feasible c hv ec e0 hf hmk _ hcomp
    exact ⟨_, hT, fun j p op hop => Int.le_trans (hBd j p op hop) hm⟩
  · rintro ⟨T, hT, hBd⟩
    obtain ⟨acts, h1, h2, h3⟩ := C08_env_reaches c hv hp hdom ec e0 hf hpad hmk T hT B hBd
    exact ⟨acts, h1, h2, by omega⟩

/-! non-vacuity: the hypotheses of both theorems are satisfiable — the positive-duration flexible instance of C06 with the
dominated filter, the constructor succeeds, a feasible complete assignment finishing by 5 exists — and the decisions
`(0, 0), (1, 1), (0, 2), (1, 0)` taken through that environment are each among the reported available operations, none raises,
the last one reports `done`, and the makespan is 5 -/
theorem posInstance_posDur : PosDurI posInstance := by
  intro j p op h
  have hall : posInstance.all (fun job => job.all fun op => decide (0 < op.dur)) = true := by decide
  unfold getOp at h
  cases hj : posInstance[j]? with
  | none => simp [hj] at h
  | some job =>
    simp only [hj, Option.bind_some] at h
    have := List.all_eq_true.1 hall job (List.mem_of_getElem? hj)
    have := List.all_eq_true.1 this op (List.mem_of_getElem? h)
    simpa using this

set_option maxRecDepth 100000 in
example :
    let c : Cfg := { I := posInstance, F := some [.dominated] }
    let ec : EnvCfg := { builder := .agentTask, feats := [(.isReady, none), (.duration, some [.machines, .operations]),
      (.isCompleted, some [.jobs])] }
    Valid c.I ∧ PosDurI c.I ∧ c.F = some [.dominated] ∧ FeatsOK ec.feats ∧ ec.usePadding = true ∧
      (∃ e0, Env.make c ec = some e0) ∧ (∃ T, FeasT c.I T ∧ BoundT c.I T 5) := by
  have hv : Valid posInstance := valid_of_validB (by decide)
  refine ⟨hv, posInstance_posDur, rfl, featsOK_of_all (by decide), rfl,
    Option.isSome_iff_exists.1 (by decide +kernel), ?_⟩
  · let r (h : List (Nat × Nat × Nat)) := replay posInstance (init posInstance) h
    have h1 : AHist posInstance ([] ++ [(0, 0, 0)]) (r [(0, 0, 0)]) := .snoc .nil (by rfl)
    have h2 : AHist posInstance ([] ++ [(0, 0, 0)] ++ [(1, 0, 1)]) (r [(0, 0, 0), (1, 0, 1)]) := .snoc h1 (by rfl)
    have h3 : AHist posInstance ([] ++ [(0, 0, 0)] ++ [(1, 0, 1)] ++ [(0, 1, 2)]) (r [(0, 0, 0), (1, 0, 1), (0, 1, 2)]) :=
      .snoc h2 (by rfl)
    have h4 : AHist posInstance ([] ++ [(0, 0, 0)] ++ [(1, 0, 1)] ++ [(0, 1, 2)] ++ [(1, 1, 0)])
        (r [(0, 0, 0), (1, 0, 1), (0, 1, 2), (1, 1, 0)]) := .snoc h3 (by rfl)
    obtain ⟨hT, hBd⟩ := asgOf_feasible hv (h4.cinv hv) (by decide)
    exact ⟨_, hT, fun j p op hop => Int.le_trans (hBd j p op hop) (by decide)⟩

set_option maxRecDepth 100000 in
example :
    let c : Cfg := { I := posInstance, F := some [.dominated] }
    let ec : EnvCfg := { builder := .agentTask, feats := [(.isReady, none), (.duration, some [.machines, .operations]),
      (.isCompleted, some [.jobs])] }
    let acts : List (Nat × Int) := [(0, 0), (1, 1), (0, 2), (1, 0)]
    (Env.make c ec).map (fun e0 =>
      ((List.range acts.length).map fun k =>
        let e := e0.runEvs ((acts.take k).map fun a => EnvEv.step a.1 a.2)
        let a := acts.getD k (0, 0)
        (decide ((a.1, e.w.s.jobIdx.getD a.1 0) ∈ availablePure e.w.cfg e.w.s),
         (e.step a.1 a.2).2 == .raised,
         match (e.step a.1 a.2).2 with | .ok _ _ d _ _ => d | .raised => false),
       let e := e0.runEvs (acts.map fun a => EnvEv.step a.1 a.2)
       (isComplete c.I e.w.s, makespan e.w.s))) =
    some ([(true, false, false), (true, false, false), (true, false, false), (true, false, true)], (true, 5)) := by
  decide +kernel

end JS
