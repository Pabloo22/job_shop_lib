import JobShopProofs.FeatureLemmas
import JobShopProofs.Properties.C01
/-!
# Feature matrices keep their shape

Every callback of every single-column feature observer (initialise, update, reset) keeps the observer's kind, its
feature types and the shape of every matrix: one column of `numEntities I ft` entries per observed feature type.
numpy gives this for free (arrays are allocated once and written in place); in the list model it is a theorem.
-/
namespace JS

/-- one column of the right length per observed feature type -/
structure FObs.Shaped (I : Instance) (o : FObs) : Prop where
  wf : o.WF
  one : ∀ ft cs, (ft, cs) ∈ o.cols → ∃ c, cs = [c] ∧ c.length = numEntities I ft

theorem indicator_length (n : Nat) (ids : List Nat) : (indicator n ids).length = n := by simp [indicator]
theorem zeros_length (n : Nat) : (zeros n).length = n := by simp [zeros]

theorem find_key_mem (ft : FT) : ∀ (l : List (FT × List (List Int))) (x : FT × List (List Int)),
    l.find? (·.1 == ft) = some x → x ∈ l ∧ x.1 = ft := by
  intro l x h
  exact ⟨List.mem_of_find?_eq_some h, by simpa using List.find?_some h⟩

theorem FObs.Shaped.col_length {I : Instance} {o : FObs} (h : o.Shaped I) {ft : FT} (hft : ft ∈ o.fts) :
    (o.col ft).length = numEntities I ft := by
  obtain ⟨cs, hcs⟩ := h.wf.has_col hft
  unfold FObs.col
  cases hf : o.cols.find? (·.1 == ft) with
  | none =>
    have := List.find?_eq_none.1 hf (ft, cs) hcs
    simp at this
  | some x =>
    obtain ⟨hx, hk⟩ := find_key_mem ft o.cols x hf
    obtain ⟨t, cs'⟩ := x
    simp only at hk; subst hk
    obtain ⟨c, rfl, hc⟩ := h.one t cs' hx
    simpa using hc

theorem FObs.Shaped.setCol {I : Instance} {o : FObs} (h : o.Shaped I) (ft : FT) (c : List Int)
    (hc : c.length = numEntities I ft) : (o.setCol ft c).Shaped I := by
  refine ⟨h.wf.setCol ft c, ?_⟩
  intro t cs hmem
  unfold FObs.setCol at hmem
  simp only at hmem
  rw [List.mem_map] at hmem
  obtain ⟨x0, h0, heq⟩ := hmem
  by_cases hk : (x0.1 == ft) = true
  · rw [if_pos hk] at heq
    cases heq
    have : x0.1 = ft := by simpa using hk
    rw [this]
    exact ⟨c, rfl, hc⟩
  · rw [if_neg hk] at heq
    cases heq
    exact h.one x0.1 x0.2 h0

theorem zeroed_shaped (I : Instance) (o : FObs) (hnd : o.fts.Nodup) : (o.zeroed I).Shaped I := by
  refine ⟨zeroed_wf I o hnd, ?_⟩
  intro ft cs hmem
  simp only [FObs.zeroed, List.mem_map] at hmem
  obtain ⟨t, _, heq⟩ := hmem
  cases heq
  exact ⟨_, rfl, zeros_length _⟩

theorem zeroed_fts (I : Instance) (o : FObs) : (o.zeroed I).fts = o.fts := rfl
theorem zeroed_kind (I : Instance) (o : FObs) : (o.zeroed I).kind = o.kind := rfl

/-- what the shape argument needs to know about a transformer -/
structure Keeps (I : Instance) (o o' : FObs) : Prop where
  shaped : o'.Shaped I
  fts : o'.fts = o.fts
  kind : o'.kind = o.kind
  parts : o'.parts = o.parts
  graph : o'.graph = o.graph ∧ o'.graph0 = o.graph0

theorem Keeps.refl {I : Instance} {o : FObs} (h : o.Shaped I) : Keeps I o o := ⟨h, rfl, rfl, rfl, rfl, rfl⟩

theorem Keeps.trans {I : Instance} {a b c : FObs} (h1 : Keeps I a b) (h2 : Keeps I b c) : Keeps I a c :=
  ⟨h2.shaped, h2.fts.trans h1.fts, h2.kind.trans h1.kind, h2.parts.trans h1.parts,
   h2.graph.1.trans h1.graph.1, h2.graph.2.trans h1.graph.2⟩

theorem keeps_setCol {I : Instance} {o : FObs} (h : o.Shaped I) (ft : FT) (c : List Int)
    (hc : c.length = numEntities I ft) : Keeps I o (o.setCol ft c) :=
  ⟨h.setCol ft c hc, rfl, rfl, rfl, rfl, rfl⟩

theorem keeps_zeroed {I : Instance} {o : FObs} (hnd : o.fts.Nodup) : Keeps I o (o.zeroed I) :=
  ⟨zeroed_shaped I o hnd, rfl, rfl, rfl, rfl, rfl⟩

theorem keeps_assignCols {I : Instance} {o : FObs} (h : o.Shaped I) (g : FObs → FT → List Int)
    (hg : ∀ o', Keeps I o o' → ∀ ft, ft ∈ o.fts → (g o' ft).length = numEntities I ft) :
    Keeps I o (o.assignCols g) := by
  unfold FObs.assignCols
  have : ∀ (l : List FT) (o' : FObs), (∀ ft ∈ l, ft ∈ o.fts) → Keeps I o o' →
      Keeps I o (l.foldl (fun o ft => o.setCol ft (g o ft)) o') := by
    intro l
    induction l with
    | nil => intro o' _ hk; exact hk
    | cons a t ih =>
      intro o' hsub hk
      simp only [List.foldl_cons]
      apply ih _ (fun ft hft => hsub ft (by simp [hft]))
      exact hk.trans (keeps_setCol hk.shaped a _ (hg o' hk a (hsub a (by simp))))
  exact this o.fts o (fun _ h => h) (Keeps.refl h)

theorem numEntities_ops (I : Instance) : numEntities I .operations = (allOps I).length := by
  rw [length_allOps]; rfl

theorem keeps_isReadyFeatures (c : Cfg) (s : State) {o : FObs} (h : o.Shaped c.I) :
    Keeps c.I o (isReadyFeatures c s o) := by
  unfold isReadyFeatures
  exact (keeps_zeroed h.wf.nodup).trans
    (keeps_assignCols (zeroed_shaped c.I o h.wf.nodup) _ (fun _ _ ft _ => indicator_length _ _))

theorem estCol_length (c : Cfg) (s : State) (o : FObs) (ft : FT) : (estCol c s o ft).length = numEntities c.I ft := by
  cases ft <;> simp [estCol, numEntities, length_allOps]

theorem keeps_estFeatures (c : Cfg) (s : State) {o : FObs} (h : o.Shaped c.I) : Keeps c.I o (estFeatures c s o) :=
  keeps_assignCols h _ (fun o' _ ft _ => estCol_length c s o' ft)

theorem durationInitCol_length (c : Cfg) (s : State) (ft : FT) : (durationInitCol c s ft).length = numEntities c.I ft := by
  cases ft <;> simp [durationInitCol, numEntities, length_allOps]

theorem keeps_durationInit (c : Cfg) (s : State) {o : FObs} (h : o.Shaped c.I) : Keeps c.I o (durationInit c s o) :=
  keeps_assignCols h _ (fun _ _ ft _ => durationInitCol_length c s ft)

theorem keeps_durationUpdate (c : Cfg) (s : State) (x : SOp) {o : FObs} (h : o.Shaped c.I) :
    Keeps c.I o (durationUpdate c s x o) := by
  refine keeps_assignCols h _ ?_
  intro o' hk ft hft
  have hl := hk.shaped.col_length (hk.fts ▸ hft)
  cases ft <;> simp only [durationUpdateCol, setAt_length, addAt_length] <;> exact hl

theorem keeps_isScheduledUpdate (c : Cfg) (s : State) (x : SOp) {o : FObs} (h : o.Shaped c.I) :
    Keeps c.I o (isScheduledUpdate c s x o) := by
  refine keeps_assignCols h _ ?_
  intro o' hk ft hft
  have hl := hk.shaped.col_length (hk.fts ▸ hft)
  cases ft
  case operations => simp only [isScheduledCol, setAt_length]; exact hl
  all_goals
    simp only [isScheduledCol]
    rw [foldl_length _ (fun l a => addAt_length l _ _)]
    exact zeros_length _

theorem keeps_if {I : Instance} {o : FObs} (h : o.Shaped I) (b : Bool) (o' : FObs) (hk : b = true → Keeps I o o') :
    Keeps I o (if b = true then o' else o) := by
  split
  · rename_i hb; exact hk hb
  · exact Keeps.refl h

theorem keeps_ifHas {I : Instance} {o : FObs} (h : o.Shaped I) (ft : FT) (c : List Int)
    (hc : c.length = (o.col ft).length) : Keeps I o (if o.has ft = true then o.setCol ft c else o) :=
  keeps_if h _ _ fun hh => keeps_setCol h ft c (hc.trans (h.col_length (has_iff.1 hh)))

theorem keeps_positionInit (c : Cfg) (s : State) {o : FObs} (h : o.Shaped c.I) : Keeps c.I o (positionInit c s o) :=
  keeps_ifHas h _ _ (foldl_length _ (fun l _ => setAt_length l _ _) _ _)

theorem keeps_positionUpdate (c : Cfg) (x : SOp) {o : FObs} (h : o.Shaped c.I) : Keeps c.I o (positionUpdate c x o) :=
  keeps_ifHas h _ _ (foldl_length _ (fun l _ => setAt_length l _ _) _ _)

theorem keeps_foldl {α} {I : Instance} (f : FObs → α → FObs) (hf : ∀ o a, o.Shaped I → Keeps I o (f o a)) :
    ∀ (l : List α) (o : FObs), o.Shaped I → Keeps I o (l.foldl f o)
  | [], _, h => Keeps.refl h
  | a :: t, o, h => by
    simp only [List.foldl_cons]
    exact (hf o a h).trans (keeps_foldl f hf t _ (hf o a h).shaped)

theorem keeps_remainingInit (c : Cfg) (deques : List (List OpRef)) {o : FObs} (h : o.Shaped c.I) :
    Keeps c.I o (remainingInit c deques o) := by
  unfold remainingInit
  apply keeps_foldl _ _ _ _ h
  intro o r ho
  have h1 := keeps_ifHas ho .jobs (addAt (o.col .jobs) r.1 1) (addAt_length _ _ _)
  refine h1.trans ?_
  dsimp only
  cases getOp c.I r.1 r.2 with
  | none => rw [ite_self]; exact Keeps.refl h1.shaped
  | some op => exact keeps_ifHas h1.shaped .machines _ (foldl_length _ (fun l _ => addAt_length l _ _) _ _)

theorem keeps_remainingUpdate (I : Instance) (x : SOp) {o : FObs} (h : o.Shaped I) : Keeps I o (remainingUpdate x o) :=
  have h1 := keeps_ifHas h .jobs (addAt (o.col .jobs) x.job (-1)) (addAt_length _ _ _)
  h1.trans (keeps_ifHas h1.shaped .machines _ (addAt_length _ _ _))

theorem keeps_withRem {I : Instance} {o : FObs} (h : o.Shaped I) (rj rm : List Int) :
    Keeps I o { o with remJob := rj, remMach := rm } :=
  ⟨⟨⟨h.wf.keys, h.wf.nodup⟩, h.one⟩, rfl, rfl, rfl, rfl, rfl⟩

/-- the three stages of `IsCompletedObserver.update` -/
def icOps (c : Cfg) (s : State) (o : FObs) : FObs :=
  if o.has .operations then
    o.setCol .operations ((completedPure c s).foldl (fun col r => setAt col (opId c.I r) 1) (o.col .operations))
  else o
def icMach (ms : List Nat) (o : FObs) : FObs :=
  if o.has .machines then
    let rem := ms.foldl (fun col m => addAt col m (-1)) o.remMach
    let o2 := o.setCol .machines (ms.foldl (fun col m => setAt col m (if rem.getD m 0 == 0 then 1 else 0)) (o.col .machines))
    { o2 with remMach := rem }
  else o
def icJobs (x : SOp) (o : FObs) : FObs :=
  if o.has .jobs then
    let rem := addAt o.remJob x.job (-1)
    let o2 := o.setCol .jobs (setAt (o.col .jobs) x.job (if rem.getD x.job 0 == 0 then 1 else 0))
    { o2 with remJob := rem }
  else o

theorem isCompletedUpdate_eq (c : Cfg) (s : State) (x : SOp) (o : FObs) :
    isCompletedUpdate c s x o =
      icJobs x (icMach (match getOp c.I x.job x.pos with | some op => op.machines | none => []) (icOps c s o)) := rfl

theorem keeps_ifHasRem {I : Instance} {o : FObs} (h : o.Shaped I) (ft : FT) (c rj rm : List Int)
    (hc : c.length = (o.col ft).length) :
    Keeps I o (if o.has ft = true then { o.setCol ft c with remJob := rj, remMach := rm } else o) :=
  keeps_if h _ _ fun hh =>
    have hk := keeps_setCol h ft c (hc.trans (h.col_length (has_iff.1 hh)))
    hk.trans (keeps_withRem hk.shaped rj rm)

theorem keeps_isCompletedUpdate (c : Cfg) (s : State) (x : SOp) {o : FObs} (h : o.Shaped c.I) :
    Keeps c.I o (isCompletedUpdate c s x o) := by
  rw [isCompletedUpdate_eq]
  have h1 : Keeps c.I o (icOps c s o) := keeps_ifHas h _ _ (foldl_length _ (fun l _ => setAt_length l _ _) _ _)
  have h2 : ∀ ms, Keeps c.I (icOps c s o) (icMach ms (icOps c s o)) := fun ms =>
    keeps_ifHasRem h1.shaped .machines _ _ _ (foldl_length _ (fun l _ => setAt_length l _ _) _ _)
  have h3 : ∀ o2, o2.Shaped c.I → Keeps c.I o2 (icJobs x o2) := fun o2 ho2 =>
    keeps_ifHasRem ho2 .jobs _ _ _ (setAt_length _ _ _)
  exact h1.trans ((h2 _).trans (h3 _ (h2 _).shaped))

end JS
