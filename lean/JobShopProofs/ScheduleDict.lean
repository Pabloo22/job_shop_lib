import JobShopProofs.SeqAccept
/-!
# C14 — a dispatcher-built schedule survives `Schedule.to_dict()` / `Schedule.from_dict(**d)`

`Schedule.to_dict()` is `{"instance": instance.to_dict(), "job_sequences": …}` and `Schedule.from_dict(instance,
job_sequences)` is `from_job_sequences(JobShopInstance.from_matrices(**instance), job_sequences)`.

The round trip is proved for this dictionary and again through the JSON value tree that `json.dump` / `json.load`
carry.
-/
namespace JS

theorem getOp_of_mem {I : Instance} {job : List Op} {op : Op} (hj : job ∈ I) (ho : op ∈ job) :
    ∃ j p, getOp I j p = some op := by
  obtain ⟨j, hjl, rfl⟩ := List.getElem_of_mem hj
  obtain ⟨p, hpl, rfl⟩ := List.getElem_of_mem ho
  exact ⟨j, p, by simp [getOp, List.getElem?_eq_getElem hjl, List.getElem?_eq_getElem hpl]⟩

theorem hasMachine_of_valid {I : Instance} (hv : Valid I) : HasMachine I := by
  intro job hj op ho
  obtain ⟨j, p, h⟩ := getOp_of_mem hj ho
  exact (hv j p op h).1

theorem nonFlex_of_nonFlexH {I : Instance} (hn : NonFlexH I) : NonFlex I := by
  intro job hj op ho
  obtain ⟨j, p, h⟩ := getOp_of_mem hj ho
  obtain ⟨m, hm⟩ := hn j p op h
  simp [hm]

/-- `Schedule.to_dict()`: the instance's dictionary (duration and machine matrices) and the per-machine job sequences -/
def schedToDict (I : Instance) (s : State) := (toDict I, jobSequences s)

/-- `Schedule.from_dict(**d)` -/
def schedFromDict (d : (List (List Int) × MachinesMatrix) × List (List Nat)) : Instance × SeqResult :=
  let I' := fromMatrices d.1.1 d.1.2
  (I', fromJobSequences I' (numOps I' + 1) d.2 (init I'))

theorem schedFromDict_toDict (I : Instance) (hm : HasMachine I) (s : State) :
    schedFromDict (schedToDict I s) = (I, fromJobSequences I (numOps I + 1) (jobSequences s) (init I)) := by
  simp only [schedFromDict, schedToDict, C14_dict_roundtrip I hm]

/-- **C14 (schedule dictionary round trip).** For every valid non-flexible instance and every complete schedule built by
a history of dispatcher requests, `Schedule.from_dict(**schedule.to_dict())` returns a schedule (no error) for the
identical instance with the identical per-machine lists (operation, machine, start time, order). -/
theorem C14_schedule_dict_roundtrip (c : Cfg) (hv : Valid c.I) (hn : NonFlexH c.I) (evs : List Ev)
    (hcomp : isComplete c.I (run c evs) = true) :
    ∃ s', schedFromDict (schedToDict c.I (run c evs)) = (c.I, .ok s') ∧ s'.sched = (run c evs).sched := by
  obtain ⟨s', h1, h2⟩ := C14_seq_rebuild c hv hn evs hcomp
  exact ⟨s', by rw [schedFromDict_toDict c.I (hasMachine_of_valid hv), h1], h2⟩

/-! What `json.dump` / `json.load` round-trip is a value tree of numbers, arrays and objects; the flexible / non-flexible tag
of `MachinesMatrix` does not exist there: `from_matrices` passes each entry of the machines matrix to
`Operation(machines=…)`, which wraps an `int` into a one-element list and keeps a list. -/

/-- JSON values occurring in `Schedule.to_dict()` (`name` and `metadata` are carried along unchanged, not modelled) -/
inductive Json
  | num (n : Int)
  | arr (l : List Json)
  | obj (kv : List (String × Json))
deriving Inhabited

namespace Json
def ofInt (n : Int) : Json := .num n
def ofNat (n : Nat) : Json := .num (n : Int)
def ofList {α} (f : α → Json) (l : List α) : Json := .arr (l.map f)

def asInt : Json → Option Int
  | .num n => some n
  | _ => none
/-- an id (machine id, job id); negative numbers are outside the model -/
def asNat : Json → Option Nat
  | .num n => if 0 ≤ n then some n.toNat else none
  | _ => none
def asArr : Json → Option (List Json)
  | .arr l => some l
  | _ => none
/-- `d[key]` -/
def field (k : String) : Json → Option Json
  | .obj kv => kv.lookup k
  | _ => none
def asList {α} (f : Json → Option α) (j : Json) : Option (List α) := j.asArr.bind fun l => l.mapM f
end Json

/-- `machines_matrix` as a JSON value -/
def machinesMatrixJson : MachinesMatrix → Json
  | .flex m => Json.ofList (Json.ofList (Json.ofList Json.ofNat)) m
  | .single m => Json.ofList (Json.ofList Json.ofNat) m

/-- `instance.to_dict()` as a JSON value -/
def instanceToJson (I : Instance) : Json :=
  .obj [("duration_matrix", Json.ofList (Json.ofList Json.ofInt) (toDict I).1),
        ("machines_matrix", machinesMatrixJson (toDict I).2)]

/-- `Schedule.to_dict()` as a JSON value -/
def schedToJson (I : Instance) (s : State) : Json :=
  .obj [("instance", instanceToJson I), ("job_sequences", Json.ofList (Json.ofList Json.ofNat) (jobSequences s))]

/-- `Operation(machines=m)`: an `int` becomes `[m]`, a list stays -/
def machinesOfJson : Json → Option (List Nat)
  | .num n => (Json.num n).asNat.map fun m => [m]
  | j => j.asList Json.asNat

/-- `JobShopInstance.from_matrices(**d)` on decoded JSON: every entry of the machines matrix goes through
`Operation(machines=…)`; the result is `none` when the value does not have the shape of matrices of numbers -/
def fromMatricesJson (d m : Json) : Option Instance :=
  (d.asList fun r => r.asList Json.asInt).bind fun dm =>
  (m.asList fun r => r.asList machinesOfJson).bind fun mm =>
  some (fromMatrices dm (.flex mm))

/-- `Schedule.from_dict(**json.loads(…))` -/
def schedFromJson (j : Json) : Option (Instance × SeqResult) :=
  (j.field "instance").bind fun ij =>
  (ij.field "duration_matrix").bind fun dj =>
  (ij.field "machines_matrix").bind fun mj =>
  (fromMatricesJson dj mj).bind fun I' =>
  (j.field "job_sequences").bind fun sj =>
  (sj.asList fun r => r.asList Json.asNat).bind fun seqs =>
  some (I', fromJobSequences I' (numOps I' + 1) seqs (init I'))

theorem mapM_map_some {α β γ} (enc : α → β) (dec : β → Option γ) (g : α → γ) : ∀ (l : List α),
    (∀ x ∈ l, dec (enc x) = some (g x)) → (l.map enc).mapM dec = some (l.map g)
  | [], _ => by simp
  | a :: t, h => by
    simp only [List.map_cons, List.mapM_cons, h a (by simp),
      mapM_map_some enc dec g t (fun x hx => h x (by simp [hx]))]
    rfl

theorem Json.asList_ofList_map {α γ} (enc : α → Json) (dec : Json → Option γ) (g : α → γ) (l : List α)
    (h : ∀ x ∈ l, dec (enc x) = some (g x)) : (Json.ofList enc l).asList dec = some (l.map g) := by
  simp only [Json.asList, Json.ofList, Json.asArr, Option.bind_some]
  exact mapM_map_some enc dec g l h

theorem Json.asList_ofList {α} (enc : α → Json) (dec : Json → Option α) (l : List α)
    (h : ∀ x ∈ l, dec (enc x) = some x) : (Json.ofList enc l).asList dec = some l := by
  have := Json.asList_ofList_map enc dec id l h
  simpa using this

theorem Json.asInt_ofInt (n : Int) : (Json.ofInt n).asInt = some n := rfl

theorem Json.asNat_ofNat (n : Nat) : (Json.ofNat n).asNat = some n := by
  simp [Json.asNat, Json.ofNat]

theorem machinesOfJson_ofNat (n : Nat) : machinesOfJson (Json.ofNat n) = some [n] := by
  have := Json.asNat_ofNat n
  simp only [Json.ofNat] at this
  simp [machinesOfJson, Json.ofNat, this]

theorem machinesOfJson_ofList (l : List Nat) : machinesOfJson (Json.ofList Json.ofNat l) = some l := by
  have := Json.asList_ofList Json.ofNat Json.asNat l (fun x _ => Json.asNat_ofNat x)
  simpa [machinesOfJson, Json.ofList] using this

theorem natMatrix_json (m : List (List Nat)) :
    (Json.ofList (Json.ofList Json.ofNat) m).asList (fun r => r.asList Json.asNat) = some m :=
  Json.asList_ofList _ _ m fun r _ => Json.asList_ofList _ _ r fun x _ => Json.asNat_ofNat x

theorem intMatrix_json (m : List (List Int)) :
    (Json.ofList (Json.ofList Json.ofInt) m).asList (fun r => r.asList Json.asInt) = some m :=
  Json.asList_ofList _ _ m fun r _ => Json.asList_ofList _ _ r fun x _ => Json.asInt_ofInt x

/-- decoding the machines matrix, entry by entry through `Operation(machines=…)`, yields every operation's machine
list — in the flexible form directly, in the non-flexible form because every operation has exactly one machine -/
theorem machinesMatrix_json (I : Instance) (hm : HasMachine I) :
    (machinesMatrixJson (machinesMatrix I)).asList (fun r => r.asList machinesOfJson)
      = some (I.map fun job => job.map (·.machines)) := by
  unfold machinesMatrix
  by_cases hf : isFlexible I = true
  · simp only [hf, ↓reduceIte, machinesMatrixJson]
    exact Json.asList_ofList _ _ _ fun r _ => Json.asList_ofList _ _ r fun x _ => machinesOfJson_ofList x
  · have hf' : isFlexible I = false := by simpa using hf
    have hle := (not_flexible_iff I).1 hf'
    simp only [hf', Bool.false_eq_true, ↓reduceIte, machinesMatrixJson]
    have h1 : (I.map fun job => job.map (·.machines)) =
        (I.map fun job => job.map fun op => op.machines.headD 0).map fun r => r.map fun m => [m] := by
      simp only [List.map_map]
      apply List.map_congr_left
      intro job hj
      simp only [Function.comp_apply, List.map_map]
      apply List.map_congr_left
      intro op ho
      have h1 := hle job hj op ho
      have h2 := List.length_pos_iff.2 (hm job hj op ho)
      obtain ⟨a, ha⟩ := List.length_eq_one_iff.1 (show op.machines.length = 1 by omega)
      simp [ha]
    rw [h1]
    exact Json.asList_ofList_map _ _ _ _ fun r _ => Json.asList_ofList_map _ _ _ r fun x _ => machinesOfJson_ofNat x

/-- **C14 (instance JSON round trip).** For every instance whose operations all have a machine — flexible or not —
`from_matrices` applied to the JSON value of `to_dict()` reproduces the same operations. -/
theorem C14_instance_json_roundtrip (I : Instance) (hm : HasMachine I) :
    fromMatricesJson (Json.ofList (Json.ofList Json.ofInt) (toDict I).1) (machinesMatrixJson (toDict I).2) = some I := by
  simp only [fromMatricesJson, toDict, intMatrix_json, machinesMatrix_json I hm, Option.bind_some]
  rw [fromMatrices_flex]

theorem schedFromJson_toJson (I : Instance) (hm : HasMachine I) (s : State) :
    schedFromJson (schedToJson I s) = some (I, fromJobSequences I (numOps I + 1) (jobSequences s) (init I)) := by
  have h1 : (schedToJson I s).field "instance" = some (instanceToJson I) := by
    simp [schedToJson, Json.field, List.lookup]
  have h2 : (schedToJson I s).field "job_sequences" =
      some (Json.ofList (Json.ofList Json.ofNat) (jobSequences s)) := by
    simp [schedToJson, Json.field, List.lookup]
  have h3 : (instanceToJson I).field "duration_matrix" = some (Json.ofList (Json.ofList Json.ofInt) (toDict I).1) := by
    simp [instanceToJson, Json.field, List.lookup]
  have h4 : (instanceToJson I).field "machines_matrix" = some (machinesMatrixJson (toDict I).2) := by
    simp [instanceToJson, Json.field, List.lookup]
  simp only [schedFromJson, h1, h2, h3, h4, Option.bind_some, C14_instance_json_roundtrip I hm, natMatrix_json]

/-- **C14 (schedule JSON round trip).** For every valid non-flexible instance and every complete schedule built by a
history of dispatcher requests, `Schedule.from_dict(**d)` applied to the JSON value `d` of `schedule.to_dict()` decodes
(no shape error), returns a schedule (no exception) for the identical instance, with the identical per-machine lists. -/
theorem C14_schedule_json_roundtrip (c : Cfg) (hv : Valid c.I) (hn : NonFlexH c.I) (evs : List Ev)
    (hcomp : isComplete c.I (run c evs) = true) :
    ∃ s', schedFromJson (schedToJson c.I (run c evs)) = some (c.I, .ok s') ∧ s'.sched = (run c evs).sched := by
  obtain ⟨s', h1, h2⟩ := C14_seq_rebuild c hv hn evs hcomp
  exact ⟨s', by rw [schedFromJson_toJson c.I (hasMachine_of_valid hv), h1], h2⟩

theorem schedFromJson_eq_schedFromDict (I : Instance) (hm : HasMachine I) (s : State) :
    schedFromJson (schedToJson I s) = some (schedFromDict (schedToDict I s)) := by
  rw [schedFromJson_toJson I hm, schedFromDict_toDict I hm]

/-! ## non-vacuity

`rebuildInstance` is non-flexible, has zero durations and recirculation (job 0 visits machine 0 twice);
`rebuildHistory` is a complete history with a rejected request, a reset and a query. -/

/-- the schedule of a returned result -/
def SeqResult.sched? : SeqResult → Option (List (List SOp))
  | .ok s => some s.sched
  | _ => none

example : (schedFromDict (schedToDict rebuildInstance (run { I := rebuildInstance } rebuildHistory))).1
    = rebuildInstance := by decide +kernel
example : (schedFromDict (schedToDict rebuildInstance (run { I := rebuildInstance } rebuildHistory))).2.sched?
    = some (run { I := rebuildInstance } rebuildHistory).sched := by decide +kernel
example : (schedFromDict (schedToDict rebuildInstance (run { I := rebuildInstance } rebuildHistory))).2.sched?
    = some [[⟨0, 0, 0, 0, 0⟩, ⟨1, 0, 0, 0, 0⟩, ⟨0, 2, 0, 2, 0⟩], [⟨0, 1, 1, 0, 2⟩, ⟨1, 1, 1, 2, 0⟩]] := by decide +kernel
example : (schedFromJson (schedToJson rebuildInstance (run { I := rebuildInstance } rebuildHistory))).map
    (fun r => (r.1, r.2.sched?))
    = some (rebuildInstance, some (run { I := rebuildInstance } rebuildHistory).sched) := by decide +kernel
/-- a flexible instance also survives the JSON form of `to_dict()` -/
example : fromMatricesJson (Json.ofList (Json.ofList Json.ofInt) (toDict exampleInstance).1)
    (machinesMatrixJson (toDict exampleInstance).2) = some exampleInstance := by decide +kernel
/-- the hypotheses cannot be dropped altogether: an operation without machines does not survive the non-flexible
dictionary form (`machines[0]` raises; in the model it comes back as machine 0) -/
example : (schedFromDict (schedToDict [[⟨[], 1⟩]] (init [[⟨[], 1⟩]]))).1 ≠ [[⟨[], 1⟩]] := by decide +kernel

end JS
