import JobShopProofs.FeatureShape
import JobShopModel.Env
/-!
# The shape of the composite observer's matrices depends only on its parts' feature types
-/
namespace JS

/-- feature types in order of first appearance -/
def addKey (acc : List FT) (ft : FT) : List FT := if acc.contains ft then acc else acc ++ [ft]
def orderOf (ftss : List (List FT)) : List FT := ftss.foldl (fun acc fts => fts.foldl addKey acc) []

/-- the shape `(rows, columns)` of every matrix of a composite over single-column observers with these feature types -/
def shapeF (I : Instance) (ftss : List (List FT)) : List (FT × Nat × Nat) :=
  (orderOf ftss).map fun ft => (ft, numEntities I ft, (ftss.filter (·.contains ft)).length)

theorem compositeCols_order (obs : List FObs) :
    obs.foldl (fun (acc : List FT) o => o.cols.foldl (fun acc tc => if acc.contains tc.1 then acc else acc ++ [tc.1]) acc) []
      = orderOf (obs.map fun o => o.cols.map (·.1)) := by
  unfold orderOf
  rw [List.foldl_map]
  congr 1
  funext acc o
  rw [List.foldl_map]
  rfl

theorem addKey_mem (acc : List FT) (ft x : FT) : x ∈ addKey acc ft ↔ x ∈ acc ∨ x = ft := by
  unfold addKey
  split
  · rename_i h
    exact ⟨Or.inl, fun hx => hx.elim id fun e => e ▸ List.contains_iff_mem.1 h⟩
  · simp

theorem foldl_addKey_mem (fts : List FT) : ∀ (acc : List FT) (x : FT), x ∈ fts.foldl addKey acc ↔ x ∈ acc ∨ x ∈ fts := by
  induction fts with
  | nil => intro acc x; simp
  | cons a t ih =>
    intro acc x
    rw [List.foldl_cons, ih, addKey_mem, List.mem_cons, or_assoc]

theorem orderOf_mem_aux : ∀ (ftss : List (List FT)) (acc : List FT) (x : FT),
    x ∈ ftss.foldl (fun acc fts => fts.foldl addKey acc) acc ↔ x ∈ acc ∨ ∃ fts ∈ ftss, x ∈ fts := by
  intro ftss
  induction ftss with
  | nil => intro acc x; simp
  | cons a t ih =>
    intro acc x
    rw [List.foldl_cons, ih, foldl_addKey_mem, or_assoc]
    simp only [List.mem_cons, exists_eq_or_imp]

theorem orderOf_mem (ftss : List (List FT)) (x : FT) : x ∈ orderOf ftss ↔ ∃ fts ∈ ftss, x ∈ fts := by
  unfold orderOf
  rw [orderOf_mem_aux]; simp

theorem shaped_filter_cols {I : Instance} {o : FObs} (h : o.Shaped I) (ft : FT) :
    (ft ∈ o.fts → ∃ c, ((o.cols.filter (·.1 == ft)).flatMap (·.2)) = [c] ∧ c.length = numEntities I ft) ∧
    (ft ∉ o.fts → ((o.cols.filter (·.1 == ft)).flatMap (·.2)) = []) := by
  have hnd : (o.cols.map (·.1)).Nodup := by rw [h.wf.keys]; exact h.wf.nodup
  have hone := h.one
  have hkeys := h.wf.keys
  generalize o.cols = cols at hnd hone hkeys
  rw [← hkeys]
  clear hkeys
  induction cols with
  | nil => simp
  | cons a t ih =>
    obtain ⟨t1, cs1⟩ := a
    simp only [List.map_cons, List.nodup_cons] at hnd
    have iht := ih hnd.2 (fun ft cs hm => hone ft cs (by simp [hm]))
    obtain ⟨c1, rfl, hc1⟩ := hone t1 cs1 (by simp)
    by_cases hk : t1 = ft
    · subst hk
      have hnot : t1 ∉ t.map (·.1) := hnd.1
      have := iht.2 hnot
      constructor
      · intro _
        refine ⟨c1, ?_, hc1⟩
        simp only [List.filter_cons, beq_self_eq_true, ↓reduceIte, List.flatMap_cons, this]
        rfl
      · intro hn; simp at hn
    · have hb : ((t1, [c1]).1 == ft) = false := by simpa using hk
      simp only [List.filter_cons, hb, Bool.false_eq_true, ↓reduceIte, List.map_cons, List.mem_cons]
      constructor
      · rintro (h1 | h1)
        · exact absurd h1.symm hk
        · exact iht.1 h1
      · intro hn
        exact iht.2 (fun h1 => hn (Or.inr h1))

theorem flatMap_cols_shape {I : Instance} (ft : FT) : ∀ (obs : List FObs), (∀ o ∈ obs, o.Shaped I) →
    ((obs.flatMap fun o => (o.cols.filter (·.1 == ft)).flatMap (·.2)).length =
        ((obs.map (·.fts)).filter (·.contains ft)).length) ∧
    ∀ col ∈ (obs.flatMap fun o => (o.cols.filter (·.1 == ft)).flatMap (·.2)), col.length = numEntities I ft
  | [], _ => by simp
  | o :: t, h => by
    have ih := flatMap_cols_shape ft t (fun o ho => h o (by simp [ho]))
    have ho := shaped_filter_cols (h o (by simp)) ft
    simp only [List.flatMap_cons, List.map_cons, List.filter_cons, List.length_append, List.mem_append]
    by_cases hft : ft ∈ o.fts
    · obtain ⟨c, hc, hlen⟩ := ho.1 hft
      have hcont : o.fts.contains ft = true := by simpa using hft
      rw [hc, hcont]
      simp only [↓reduceIte, List.length_cons, List.length_nil]
      refine ⟨by omega, ?_⟩
      rintro col (h1 | h1)
      · simp at h1; subst h1; exact hlen
      · exact ih.2 col h1
    · have hcont : o.fts.contains ft = false := by simpa using hft
      rw [ho.2 hft, hcont]
      simp only [Bool.false_eq_true, ↓reduceIte, List.length_nil]
      refine ⟨by omega, ?_⟩
      rintro col (h1 | h1)
      · cases h1
      · exact ih.2 col h1

theorem compositeCols_shape {I : Instance} (heap : List FObs) (parts : List Nat)
    (h : ∀ o ∈ parts.filterMap (fun i => heap[i]?), o.Shaped I) :
    ((compositeCols heap parts).map fun tc => (tc.1, matShape tc.2)) =
        shapeF I ((parts.filterMap fun i => heap[i]?).map (·.fts)) ∧
    ∀ tc ∈ compositeCols heap parts, ∀ col ∈ tc.2, col.length = (tc.2.headD []).length := by
  unfold compositeCols
  simp only
  generalize parts.filterMap (fun i => heap[i]?) = obs at h
  rw [compositeCols_order]
  have hkeys : (obs.map fun o => o.cols.map (·.1)) = obs.map (·.fts) :=
    List.map_congr_left (fun o ho => (h o ho).wf.keys)
  rw [hkeys]
  constructor
  · unfold shapeF
    rw [List.map_map]
    apply List.map_congr_left
    intro ft hft
    simp only [Function.comp_apply, matShape]
    obtain ⟨hlen, hall⟩ := flatMap_cols_shape (I := I) ft obs h
    rw [hlen]
    congr 2
    -- the first column exists and has the right length
    obtain ⟨fts, hfts, hmem⟩ := (orderOf_mem _ ft).1 hft
    have hpos : 0 < ((obs.map (·.fts)).filter (·.contains ft)).length := by
      apply List.length_pos_of_mem (a := fts)
      simp only [List.mem_filter]
      exact ⟨hfts, by simpa using hmem⟩
    rw [← hlen] at hpos
    cases hc : (obs.flatMap fun o => (o.cols.filter (·.1 == ft)).flatMap (·.2)) with
    | nil => rw [hc] at hpos; simp at hpos
    | cons c t => simp only [List.headD_cons]; exact hall c (by rw [hc]; simp)
  · intro tc htc col hcol
    simp only [List.mem_map] at htc
    obtain ⟨ft, _, rfl⟩ := htc
    simp only at hcol ⊢
    obtain ⟨_, hall⟩ := flatMap_cols_shape (I := I) ft obs h
    rw [hall col hcol]
    cases hc : (obs.flatMap fun o => (o.cols.filter (·.1 == ft)).flatMap (·.2)) with
    | nil => rw [hc] at hcol; cases hcol
    | cons c t => simp only [List.headD_cons]; exact (hall c (by rw [hc]; simp)).symm

end JS
