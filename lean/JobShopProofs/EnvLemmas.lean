import JobShopModel.Env
import JobShopProofs.Properties.C17
import JobShopProofs.WorldEdits
/-!
# Lemmas for the environment model: the residual graph only shrinks; worlds that keep every residual observer
-/
namespace JS

theorem length_flatMap_le {α β} (f g : α → List β) : ∀ (l : List α), (∀ x ∈ l, (f x).length ≤ (g x).length) →
    (l.flatMap f).length ≤ (l.flatMap g).length
  | [], _ => by simp
  | a :: t, h => by
    simp only [List.flatMap_cons, List.length_append]
    have h1 := h a (by simp)
    have h2 := length_flatMap_le f g t (fun x hx => h x (by simp [hx]))
    omega

theorem dropNode_present_imp (g : Graph) (u v : Nat) (h : (g.dropNode u).present v = true) : g.present v = true := by
  simp only [Graph.present, Graph.dropNode, Bool.and_eq_true, decide_eq_true_eq, Bool.not_eq_true'] at h ⊢
  refine ⟨of_decide_eq_true h.1, ?_⟩
  have h2 := h.2
  simp only [List.getD_eq_getElem?_getD, List.getElem?_set] at h2 ⊢
  split at h2
  · split at h2
    · simp at h2
    · rename_i huv hlt
      subst huv
      have : g.removed[u]? = none := List.getElem?_eq_none (by omega)
      simp [this] at h2
  · exact h2

theorem dropNode_adj_le (g : Graph) (u v : Nat) :
    ((g.dropNode u).adj.getD v []).length ≤ (g.adj.getD v []).length := by
  simp only [Graph.dropNode, List.getD_eq_getElem?_getD, List.getElem?_map, List.getElem?_set]
  split
  · rename_i huv
    split
    · simp
    · rename_i hn
      have : g.adj[v]? = none := List.getElem?_eq_none (by omega)
      simp [this]
  · cases h : g.adj[v]? with
    | none => simp
    | some l => simp only [Option.map_some, Option.getD_some]; exact List.length_filter_le _ _

theorem dropNode_edges_le (g : Graph) (u : Nat) : (g.dropNode u).edges.length ≤ g.edges.length := by
  unfold Graph.edges
  rw [dropNode_nodes]
  apply length_flatMap_le
  intro v _
  by_cases hp : (g.dropNode u).present v = true
  · rw [if_pos hp, if_pos (dropNode_present_imp g u v hp)]
    simp only [List.length_map]
    exact dropNode_adj_le g u v
  · rw [if_neg hp]; simp

theorem foldl_dropNode_edges_le : ∀ (l : List Nat) (g : Graph),
    (l.foldl (fun g v => g.dropNode v) g).edges.length ≤ g.edges.length
  | [], _ => Nat.le_refl _
  | a :: t, g => by
    simp only [List.foldl_cons]
    exact Nat.le_trans (foldl_dropNode_edges_le t _) (dropNode_edges_le g a)

theorem removeNode_edges_le (g : Graph) (u : Nat) : (g.removeNode u).edges.length ≤ g.edges.length := by
  unfold Graph.removeNode
  exact Nat.le_trans (foldl_dropNode_edges_le _ _) (dropNode_edges_le g u)

theorem foldl_dropNode_nodes : ∀ (l : List Nat) (g : Graph), (l.foldl (fun g v => g.dropNode v) g).nodes = g.nodes
  | [], _ => rfl
  | a :: t, g => by simp only [List.foldl_cons]; rw [foldl_dropNode_nodes t]; rfl

theorem removeNode_nodes (g : Graph) (u : Nat) : (g.removeNode u).nodes = g.nodes := by
  unfold Graph.removeNode
  rw [foldl_dropNode_nodes]; rfl

theorem removeIf_nodes (g : Graph) (nid : Nat) (cond : Bool) : (removeIf g nid cond).nodes = g.nodes := by
  unfold removeIf; split
  · exact removeNode_nodes g nid
  · rfl

theorem removeIf_edges_le (g : Graph) (nid : Nat) (cond : Bool) : (removeIf g nid cond).edges.length ≤ g.edges.length := by
  unfold removeIf; split
  · exact removeNode_edges_le g nid
  · exact Nat.le_refl _

/-- the size facts the observation space relies on -/
structure SizeLe (g g0 : Graph) : Prop where
  nodes : g.nodes = g0.nodes
  edges : g.edges.length ≤ g0.edges.length

theorem SizeLe.refl (g : Graph) : SizeLe g g := ⟨rfl, Nat.le_refl _⟩

theorem SizeLe.removeIf {g g0 : Graph} (h : SizeLe g g0) (nid : Nat) (cond : Bool) : SizeLe (removeIf g nid cond) g0 :=
  ⟨(removeIf_nodes g nid cond).trans h.nodes, Nat.le_trans (removeIf_edges_le g nid cond) h.edges⟩

theorem sizeLe_foldl {α} (f : Graph → α → Graph) (g0 : Graph) (hf : ∀ g a, SizeLe g g0 → SizeLe (f g a) g0) :
    ∀ (l : List α) (g : Graph), SizeLe g g0 → SizeLe (l.foldl f g) g0
  | [], _, h => h
  | a :: t, g, h => by simp only [List.foldl_cons]; exact sizeLe_foldl f g0 hf t _ (hf g a h)

theorem residualUpdate_sizeLe (c : Cfg) (s : State) (heap : List FObs) (o : FObs) (g0 : Graph) (h : SizeLe o.graph g0) :
    SizeLe (residualUpdate c s heap o) g0 := by
  unfold residualUpdate
  simp only
  have h1 : SizeLe (removeCompletedOps c.I o.graph (completedPure c s)) g0 :=
    sizeLe_foldl _ g0 (fun g r hg => hg.removeIf _ _) _ _ h
  have hfl : ∀ (g : Graph) (flags : List Int) (kind : Nat → NodeKind), SizeLe g g0 → SizeLe (removeFlagged g flags kind) g0 :=
    fun g flags kind hg => sizeLe_foldl _ g0 (fun g fm hg => hg.removeIf _ _) _ _ hg
  have hite : ∀ (cnd : Bool) (a b : Graph), SizeLe a g0 → SizeLe b g0 → SizeLe (if cnd = true then a else b) g0 := by
    intro cnd a b ha hb; split <;> assumption
  apply hite
  · exact hfl _ _ _ (hite _ _ _ (hfl _ _ _ h1) h1)
  · exact hite _ _ _ (hfl _ _ _ h1) h1

/-- `w'` keeps every residual observer of `w` (same index, same content) and the configuration -/
structure KeepRes (w w' : FWorld) : Prop where
  cfg : w'.cfg = w.cfg
  keep : ∀ (k : Nat) (o : FObs), w.heap[k]? = some o → o.kind = FKind.residual → w'.heap[k]? = some o

theorem KeepRes.refl (w : FWorld) : KeepRes w w := ⟨rfl, fun _ _ h _ => h⟩

theorem KeepRes.trans {a b c : FWorld} (h1 : KeepRes a b) (h2 : KeepRes b c) : KeepRes a c :=
  ⟨h2.cfg.trans h1.cfg, fun k o h hk => h2.keep k o (h1.keep k o h hk) hk⟩

theorem keepRes_push (w : FWorld) (o : FObs) : KeepRes w (w.push o).1 :=
  ⟨rfl, fun _ _ h _ => (push_heap_old w o (heap_lt h)).trans h⟩

theorem keepRes_setObs (w : FWorld) (id : Nat) (o : FObs) (h : ∀ o0, w.heap[id]? = some o0 → o0.kind ≠ .residual) :
    KeepRes w (w.setObs id o) := by
  refine ⟨rfl, fun k o' hk hres => ?_⟩
  by_cases hik : id = k
  · exact absurd hres (h o' (hik ▸ hk))
  · exact (setObs_heap_ne w hik o).trans hk

theorem findObs_kind {w : FWorld} {kind : FKind} {need : List FT} {id : Nat} (h : w.findObs kind need = some id) :
    ∃ o, w.heap[id]? = some o ∧ o.kind = kind :=
  let ⟨_, o, ho, hk, _⟩ := findObs_subAt h
  ⟨o, ho, hk⟩

/-- a dispatch request on the feature world, whatever the state: refused, and nothing changes; or accepted, the dispatcher
state replaced and subscribers notified of the new schedule entry (none of them if the entry is not found) -/
theorem FWorld.dispatch_req (w : FWorld) (j p : Nat) (m : Option Int) :
    (∃ e, dispatchReq w.cfg.I w.s j p m = .error e ∧ w.dispatch j p m = (w, false)) ∨
    ∃ (s' : State) (x : SOp) (l : List Nat), dispatchReq w.cfg.I w.s j p m = .ok s' ∧
      w.dispatch j p m = (l.foldl (fun w id => w.callUpdate x id) { w with s := s' }, true) := by
  unfold FWorld.dispatch
  cases dispatchReq w.cfg.I w.s j p m with
  | error e => exact Or.inl ⟨e, rfl, rfl⟩
  | ok s' =>
    refine Or.inr ⟨s', ?_⟩
    simp only [true_and]
    cases s'.sched.flatten.find? fun x => x.job == j && x.pos == p with
    | none => exact ⟨default, [], rfl⟩
    | some x => exact ⟨x, w.subs, rfl⟩

theorem FWorld.dispatch_accepted (w : FWorld) (j p : Nat) (m : Option Int) :
    (w.dispatch j p m).2 = true ↔ ∃ s', dispatchReq w.cfg.I w.s j p m = .ok s' := by
  rcases w.dispatch_req j p m with ⟨e, hr, h⟩ | ⟨s', _, _, hr, h⟩
  · rw [h, hr]; exact ⟨nofun, fun ⟨_, h⟩ => nomatch h⟩
  · rw [h, hr]; exact ⟨fun _ => ⟨s', rfl⟩, fun _ => rfl⟩

end JS
