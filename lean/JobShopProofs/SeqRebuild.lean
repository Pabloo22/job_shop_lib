import JobShopProofs.Properties.C14
import JobShopProofs.Properties.C02
/-!
# C14 — rebuilding a dispatcher-built schedule from its per-machine job sequences

For every valid non-flexible instance and every complete schedule built by a dispatcher history,
`Schedule.from_job_sequences` applied to `job_sequences` of that schedule returns the identical schedule (every
entry: operation, machine, start time, in the same per-machine order).

Two facts about the per-machine lists of a reachable state are kept along the history (`HInv`): a rank (the acceptance
order) that increases along every machine list and along every job, and "every start time is forced" (`max` of the end
of the machine predecessor and the end of the job predecessor).  The rebuild loop keeps every machine list of the
rebuilt state a prefix of the target's, the queue being the job ids of the remaining suffix (`RInv`): the forced starts
make a machine step place the target's own entry, and the rank gives an incomplete state a machine whose head is
dispatchable.

Conversely, an input that `from_job_sequences` accepts is reproduced by `job_sequences` of the result, up to ids left in a
queue once the schedule is complete.
-/
namespace JS

/-- non-flexible: one machine per operation -/
def NonFlexH (I : Instance) : Prop := ∀ j p op, getOp I j p = some op → ∃ m, op.machines = [m]

theorem eq_of_map_nodup {α β} (f : α → β) (l : List α) (hn : (l.map f).Nodup) :
    ∀ x ∈ l, ∀ y ∈ l, f x = f y → x = y := by
  induction l with
  | nil => exact fun _ hx => nomatch hx
  | cons a t ih =>
    rw [List.map_cons, List.nodup_cons] at hn
    intro x hx y hy hxy
    rcases List.mem_cons.1 hx with rfl | hxt <;> rcases List.mem_cons.1 hy with rfl | hyt
    · rfl
    · exact absurd (hxy ▸ List.mem_map_of_mem hyt) hn.1
    · exact absurd (hxy ▸ List.mem_map_of_mem hxt) hn.1
    · exact ih hn.2 x hxt y hyt hxy

theorem ext_getD_nil {α} (l1 l2 : List (List α)) (hlen : l1.length = l2.length)
    (h : ∀ m, l1.getD m [] = l2.getD m []) : l1 = l2 := by
  apply List.ext_getElem hlen
  intro i h1 h2
  have := h i
  simpa [List.getD_eq_getElem?_getD, List.getElem?_eq_getElem h1, List.getElem?_eq_getElem h2] using this

theorem lt_length_of_getD_ne_nil {α} {l : List (List α)} {m : Nat} (h : l.getD m [] ≠ []) : m < l.length := by
  apply Classical.byContradiction
  intro hn
  exact h (by rw [List.getD_eq_getElem?_getD, List.getElem?_eq_none (by omega)]; rfl)

theorem mem_getD_of_flatten_inList {S : List (List SOp)} (hin : ∀ m, ∀ x ∈ S.getD m [], x.machine = m) (x : SOp)
    (hx : x ∈ S.flatten) : x ∈ S.getD x.machine [] := by
  obtain ⟨k, hk⟩ := mem_flatten_getD S x hx
  have := hin k x hk
  rw [this]; exact hk

/-- end of the last entry of a list (0 if empty) -/
def lastEndOfList (l : List SOp) : Int := (l.getLast?.map SOp.end_).getD 0

/-- start of `x` is forced, given the entries `pre` before it on its machine and the whole schedule `S` -/
def ForcedAt (S : List (List SOp)) (pre : List SOp) (x : SOp) : Prop :=
  ∃ jp : Int, x.start = max (lastEndOfList pre) jp ∧ (x.pos = 0 → jp = 0) ∧
    ∀ y ∈ S.flatten, y.job = x.job → y.pos + 1 = x.pos → jp = y.end_

structure HInv (S : List (List SOp)) : Prop where
  rank : ∃ (rk : SOp → Nat) (N : Nat), (∀ x ∈ S.flatten, rk x < N) ∧
    (∀ m, (S.getD m []).Pairwise (fun a b => rk a < rk b)) ∧
    (∀ x ∈ S.flatten, ∀ y ∈ S.flatten, x.job = y.job → x.pos < y.pos → rk x < rk y)
  forced : ∀ m pre x post, S.getD m [] = pre ++ x :: post → ForcedAt S pre x

theorem hinv_init (I : Instance) : HInv (init I).sched := by
  refine ⟨⟨fun _ => 0, 0, ?_, ?_, ?_⟩, ?_⟩
  · intro x hx; simp [init] at hx
  · intro m; simp only [init, getD_replicate_nil]; exact List.Pairwise.nil
  · intro x hx; simp [init] at hx
  · intro m pre x post h
    simp only [init, getD_replicate_nil] at h
    cases pre <;> cases h

theorem ForcedAt.mono {S S' : List (List SOp)} {pre : List SOp} {x : SOp} (h : ForcedAt S pre x)
    (hS : ∀ y ∈ S'.flatten, y.job = x.job → y.pos + 1 = x.pos → y ∈ S.flatten) : ForcedAt S' pre x := by
  obtain ⟨jp, h1, h2, h3⟩ := h
  exact ⟨jp, h1, h2, fun y hy hyj hyp => h3 y (hS y hy hyj hyp) hyj hyp⟩

theorem append_singleton_split {α} {l pre post : List α} {a x : α} (h : l ++ [a] = pre ++ x :: post) :
    (post = [] ∧ pre = l ∧ x = a) ∨ ∃ post', post = post' ++ [a] ∧ l = pre ++ x :: post' := by
  rcases List.eq_nil_or_concat post with rfl | ⟨post', z, rfl⟩
  · obtain ⟨e1, e2⟩ := List.append_inj' h rfl
    exact .inl ⟨rfl, e1.symm, (List.cons.inj e2).1.symm⟩
  · rw [List.concat_eq_append, ← List.cons_append, ← List.append_assoc] at h
    obtain ⟨e1, e2⟩ := List.append_inj' h rfl
    exact .inr ⟨post', by rw [List.concat_eq_append, (List.cons.inj e2).1], e1⟩

/-- The new entry gets the largest rank; it is the last of its machine and of its job, so both orders are kept, and
no old entry has it as job predecessor. -/
theorem hinv_dispatch {I : Instance} {s s' : State} {j p m : Nat} {op : Op} (hc : CInv I s)
    (hh : HInv s.sched) (hd : DispSpec I s s' j p m op) : HInv s'.sched := by
  obtain ⟨a, hr, ha, ha2⟩ := hc.abs
  have hsched := hd.sched_getD hc.wf
  have hmem := hd.mem_flatten hc.wf
  generalize hso : (⟨j, p, m, startTime s j m, op.dur⟩ : SOp) = so at hsched hmem
  have hsoj : so.job = j := by rw [← hso]
  have hsop : so.pos = p := by rw [← hso]
  have hsos : so.start = startTime s j m := by rw [← hso]
  have holdj : ∀ x ∈ s.sched.flatten, x.job = j → x.pos < p := by
    intro x hx hj
    have := ha.sched_lt x (hr.sched.mem_iff.2 hx)
    rwa [hr.idx, hj, hd.hidx] at this
  have hne : ∀ x ∈ s.sched.flatten, x ≠ so := by
    intro x hx he
    have := holdj x hx (he ▸ hsoj)
    rw [he, hsop] at this
    exact Nat.lt_irrefl p this
  have hsub : ∀ k, ∀ x ∈ s.sched.getD k [], x ∈ s.sched.flatten := fun k x hx => mem_getD_flatten _ _ _ hx
  obtain ⟨rk, N, hN, hR1, hR2⟩ := hh.rank
  obtain ⟨rk', hrk, hrkso⟩ : ∃ rk' : SOp → Nat, (∀ x ∈ s.sched.flatten, rk' x = rk x) ∧ rk' so = N :=
    ⟨fun x => if x = so then N else rk x, fun x hx => if_neg (hne x hx), if_pos rfl⟩
  refine ⟨⟨rk', N + 1, ?_, ?_, ?_⟩, ?_⟩
  · intro x hx
    rcases (hmem x).1 hx with hx | rfl
    · rw [hrk x hx]
      exact Nat.lt_succ_of_lt (hN x hx)
    · rw [hrkso]
      exact Nat.lt_succ_self N
  · intro k
    have hold1 : (s.sched.getD k []).Pairwise (fun a b => rk' a < rk' b) := by
      refine (hR1 k).imp_of_mem fun {a b} ha' hb' hab => ?_
      rw [hrk a (hsub k a ha'), hrk b (hsub k b hb')]
      exact hab
    rw [hsched]
    by_cases hk : k = m
    · subst hk
      rw [if_pos rfl, List.pairwise_append]
      refine ⟨hold1, List.pairwise_singleton _ _, fun x hx y hy => ?_⟩
      rw [List.mem_singleton.1 hy, hrk x (hsub k x hx), hrkso]
      exact hN x (hsub k x hx)
    · rw [if_neg hk]
      exact hold1
  · intro x hx y hy hj hp
    rcases (hmem x).1 hx with hx | rfl <;> rcases (hmem y).1 hy with hy | rfl
    · rw [hrk x hx, hrk y hy]
      exact hR2 x hx y hy hj hp
    · rw [hrk x hx, hrkso]
      exact hN x hx
    · have := holdj y hy (hj.symm.trans hsoj)
      rw [hsop] at hp
      exact absurd this (Nat.lt_asymm hp)
    · exact absurd hp (Nat.lt_irrefl _)
  · intro k pre x post hsplit
    rw [hsched] at hsplit
    -- entries of the old state keep their justification
    have holdcase : ∀ post', s.sched.getD k [] = pre ++ x :: post' → ForcedAt s'.sched pre x := by
      intro post' h
      refine (hh.forced k pre x post' h).mono fun y hy hyj hyp => ((hmem y).1 hy).resolve_right fun hyso => ?_
      have := holdj x (hsub k x (h ▸ List.mem_append_right _ List.mem_cons_self)) (hyj.symm.trans (hyso ▸ hsoj))
      rw [← hyp, hyso, hsop] at this
      exact Nat.lt_irrefl p (Nat.lt_of_succ_lt this)
    by_cases hk : k = m
    · subst hk
      rw [if_pos rfl] at hsplit
      rcases append_singleton_split hsplit with ⟨_, rfl, rfl⟩ | ⟨post', _, h⟩
      · refine ⟨s.jobNext.getD j 0, ?_, ?_, ?_⟩
        · rw [hsos]
          simp only [startTime, lastEndOfList]
          rw [hc.lastEnd k]
        · intro h0
          rw [hsop] at h0
          rw [← hr.jN]
          exact ha.jN_zero j (by rw [hr.idx, hd.hidx]; exact h0)
        · intro y hy hyj hyp
          rw [hsoj] at hyj
          rw [hsop] at hyp
          rcases (hmem y).1 hy with hy | hy
          · rw [← hr.jN, ← hyj]
            exact ha.jN_last y (hr.sched.mem_iff.2 hy) (by rw [hr.idx, hyj, hd.hidx]; exact hyp)
          · rw [hy, hsop] at hyp
            exact absurd hyp (Nat.succ_ne_self p)
      · exact holdcase post' h
    · rw [if_neg hk] at hsplit
      exact holdcase post hsplit

theorem hinv_run {c : Cfg} (hv : Valid c.I) (evs : List Ev) : HInv (run c evs).sched :=
  run_induction hv (fun s => HInv s.sched) (hinv_init c.I) (fun _ _ h => h)
    (fun _ _ _ _ _ _ hi hh hd => hinv_dispatch hi.cinv hh hd) evs

/-- what the proof needs of the target schedule `S` -/
structure Target (I : Instance) (S : List (List SOp)) : Prop where
  feas : Feasible I S
  len : S.length = numMachines I
  comp : Complete I S
  hist : HInv S

/-- invariant of the rebuild loop: every machine list of `t` is a prefix of the target's; the queue of the machine
holds the job ids of the remaining suffix -/
structure RInv (I : Instance) (S : List (List SOp)) (t : State) (d : List (List Nat)) : Prop where
  cinv : CInv I t
  dlen : d.length = numMachines I
  pre : ∀ m, ∃ rest, S.getD m [] = t.sched.getD m [] ++ rest ∧ d.getD m [] = rest.map (·.job)

/-- machine `m`'s head entry of the remaining suffix is the next operation of its job -/
def ReadyAt (S : List (List SOp)) (t : State) (m : Nat) : Prop :=
  ∃ x rest, S.getD m [] = t.sched.getD m [] ++ x :: rest ∧ t.jobIdx.getD x.job 0 = x.pos

section
variable {I : Instance} {S : List (List SOp)} {t : State} {d : List (List Nat)}

theorem rinv_sub (hr : RInv I S t d) (x : SOp) (hx : x ∈ t.sched.flatten) : x ∈ S.flatten := by
  obtain ⟨k, hk⟩ := mem_flatten_getD _ x hx
  obtain ⟨rest, h1, _⟩ := hr.pre k
  exact mem_getD_flatten S k x (by rw [h1]; exact List.mem_append_left _ hk)

theorem placed_lt (hr : RInv I S t d) (x : SOp) (hx : x ∈ t.sched.flatten) : x.pos < t.jobIdx.getD x.job 0 := by
  obtain ⟨a, hra, ha, _⟩ := hr.cinv.abs
  have := ha.sched_lt x (hra.sched.mem_iff.2 hx); rwa [hra.idx] at this

theorem placed_of_lt (hT : Target I S) (hr : RInv I S t d) (z : SOp) (hz : z ∈ S.flatten)
    (hlt : z.pos < t.jobIdx.getD z.job 0) : z ∈ t.sched.getD z.machine [] := by
  obtain ⟨a, hra, ha, _⟩ := hr.cinv.abs
  obtain ⟨w, hw, hwj, hwp⟩ := ha.idx_sched z.job z.pos (by rw [hra.idx]; exact hlt)
  have hwt : w ∈ t.sched.flatten := hra.sched.mem_iff.1 hw
  have hwS := rinv_sub hr w hwt
  have : w = z := eq_of_map_nodup _ _ hT.feas.once w hwS z hz (by simp [hwj, hwp])
  subst this
  exact mem_getD_of_flatten_inList hr.cinv.inList w hwt

theorem unplaced_of_rest (hT : Target I S) (hr : RInv I S t d) {m : Nat} {rest : List SOp}
    (h : S.getD m [] = t.sched.getD m [] ++ rest) (z : SOp) (hz : z ∈ rest) : t.jobIdx.getD z.job 0 ≤ z.pos := by
  apply Classical.byContradiction
  intro hn
  have hzm : z ∈ S.getD m [] := by rw [h]; exact List.mem_append_right _ hz
  have hzS : z ∈ S.flatten := mem_getD_flatten S m z hzm
  have hpl := placed_of_lt hT hr z hzS (Nat.lt_of_not_le hn)
  rw [hT.feas.inList m z hzm] at hpl
  obtain ⟨rk, N, _, hR1, _⟩ := hT.hist.rank
  have hp := hR1 m
  rw [h, List.pairwise_append] at hp
  exact Nat.lt_irrefl _ (hp.2.2 z hpl z hz)

theorem mem_rest_of_ge (hT : Target I S) (hr : RInv I S t d) (z : SOp) (hz : z ∈ S.flatten)
    (hge : t.jobIdx.getD z.job 0 ≤ z.pos) :
    ∃ rest, S.getD z.machine [] = t.sched.getD z.machine [] ++ rest ∧ z ∈ rest := by
  obtain ⟨rest, h1, _⟩ := hr.pre z.machine
  refine ⟨rest, h1, ?_⟩
  have hzm := mem_getD_of_flatten_inList hT.feas.inList z hz
  rw [h1] at hzm
  rcases List.mem_append.1 hzm with h | h
  · exact absurd (placed_lt hr z (mem_getD_flatten _ _ _ h)) (Nat.not_lt.2 hge)
  · exact h

theorem getOp_le (I : Instance) (j p q : Nat) (op : Op) (h : getOp I j q = some op) (hpq : p ≤ q) :
    ∃ op', getOp I j p = some op' :=
  Option.isSome_iff_exists.1 <| getD_length_of_getOp.2 <| Nat.lt_of_le_of_lt hpq <|
    getD_length_of_getOp.1 (Option.isSome_of_eq_some h)

theorem head_pos_eq (hT : Target I S) (hn : NonFlexH I) (hr : RInv I S t d) {m : Nat} {y : SOp} {rest : List SOp}
    (h : S.getD m [] = t.sched.getD m [] ++ y :: rest) {op : Op}
    (hop : getOp I y.job (t.jobIdx.getD y.job 0) = some op) (hm : m ∈ op.machines) :
    t.jobIdx.getD y.job 0 = y.pos := by
  have hle := unplaced_of_rest hT hr h y List.mem_cons_self
  apply Classical.byContradiction
  intro hne
  have hlt : t.jobIdx.getD y.job 0 < y.pos := Nat.lt_of_le_of_ne hle hne
  have hyS : y ∈ S.flatten := mem_getD_flatten S m y (h ▸ List.mem_append_right _ List.mem_cons_self)
  obtain ⟨z, hzS, hzj, hzp⟩ := hT.feas.jobPrefix y hyS _ hlt
  obtain ⟨opz, hopz, _, hzm⟩ := hT.feas.isOp z hzS
  rw [hzj, hzp, hop] at hopz
  cases hopz
  obtain ⟨m', hm'⟩ := hn _ _ _ hop
  rw [hm'] at hm hzm
  have hzmach : z.machine = m := (List.mem_singleton.1 hzm).trans (List.mem_singleton.1 hm).symm
  obtain ⟨rest', h1, hzr⟩ := mem_rest_of_ge hT hr z hzS (by rw [hzj, hzp]; exact Nat.le_refl _)
  rw [hzmach, h] at h1
  obtain rfl := List.append_cancel_left h1
  rcases List.mem_cons.1 hzr with hzy | hzr
  · rw [hzy] at hzp
    exact Nat.ne_of_lt hlt hzp.symm
  · obtain ⟨rk, N, _, hR1, hR2⟩ := hT.hist.rank
    have hp := hR1 m
    rw [h, List.pairwise_append] at hp
    exact Nat.lt_asymm (List.rel_of_pairwise_cons hp.2.1 hzr) (hR2 z hzS y hyS hzj (by rw [hzp]; exact hlt))

theorem head_start_eq (hT : Target I S) (hr : RInv I S t d) {m : Nat} {y : SOp} {rest : List SOp}
    (h : S.getD m [] = t.sched.getD m [] ++ y :: rest) (hidx : t.jobIdx.getD y.job 0 = y.pos) :
    y.start = startTime t y.job m := by
  obtain ⟨jp, h1, h2, h3⟩ := hT.hist.forced m _ y rest h
  obtain ⟨a, hra, ha, _⟩ := hr.cinv.abs
  rw [h1]
  simp only [startTime, lastEndOfList]
  rw [hr.cinv.lastEnd m]
  congr 1
  rw [← hra.jN]
  cases hp : y.pos with
  | zero =>
    rw [h2 hp]
    exact (ha.jN_zero y.job (by rw [hra.idx, hidx, hp])).symm
  | succ q =>
    obtain ⟨w, hw, hwj, hwp⟩ := ha.idx_sched y.job q (by rw [hra.idx, hidx, hp]; omega)
    have hwS := rinv_sub hr w (hra.sched.mem_iff.1 hw)
    rw [h3 w hwS hwj (by rw [hwp, hp])]
    have := ha.jN_last w hw (by rw [hwj, hra.idx, hidx, hwp, hp])
    rw [hwj] at this; exact this.symm

theorem seqMachine_step (hv : Valid I) (hT : Target I S) (hn : NonFlexH I) (hr : RInv I S t d) (m : Nat) (pr : Bool) :
    (∃ d' t', jobSeqMachine I m d t pr = .ok (d', t', true) ∧ RInv I S t' d') ∨
    (jobSeqMachine I m d t pr = .ok (d, t, pr) ∧ ¬ ReadyAt S t m) := by
  obtain ⟨rest, h1, h2⟩ := hr.pre m
  cases rest with
  | nil =>
    refine .inr ⟨jobSeqMachine_nil h2, ?_⟩
    rintro ⟨x, rest', hx, _⟩
    cases List.append_cancel_left (h1.symm.trans hx)
  | cons y rest' =>
    have hym : y ∈ S.getD m [] := h1 ▸ List.mem_append_right _ List.mem_cons_self
    have hyS : y ∈ S.flatten := mem_getD_flatten S m y hym
    have hle := unplaced_of_rest hT hr h1 y List.mem_cons_self
    obtain ⟨opy, hopy, hdur, hmach⟩ := hT.feas.isOp y hyS
    obtain ⟨op, hop⟩ := getOp_le I y.job _ _ opy hopy hle
    rw [jobSeqMachine_cons h2 hop]
    by_cases hm : op.machines.contains m = true
    · rw [if_pos hm]
      left
      have hmem : m ∈ op.machines := List.contains_iff_mem.1 hm
      have hidx := head_pos_eq hT hn hr h1 hop hmem
      obtain ⟨t', ht'⟩ := dispatch_accepts hr.cinv hop rfl hmem
      rw [ht']
      refine ⟨_, t', rfl, ?_⟩
      obtain ⟨op', hsp⟩ := dispatch_ok ht'
      obtain rfl : op = op' := Option.some.inj (hop.symm.trans hsp.hop)
      obtain rfl : opy = op := Option.some.inj (hopy.symm.trans (hidx ▸ hop))
      have hsched := hsp.sched_getD hr.cinv.wf
      have hyeq : (⟨y.job, t.jobIdx.getD y.job 0, m, startTime t y.job m, opy.dur⟩ : SOp) = y := by
        rw [hidx, ← head_start_eq hT hr h1 hidx, ← hT.feas.inList m y hym, ← hdur]
      rw [hyeq] at hsched
      refine ⟨cinv_dispatch (hv _ _ _ hop).2.2 hr.cinv hsp, (List.length_set ..).trans hr.dlen, fun k => ?_⟩
      rw [hsched, getD_set_eq _ _ _ _ (hr.dlen ▸ hsp.machine_lt)]
      by_cases hk : k = m
      · subst hk
        rw [if_pos rfl, if_pos rfl]
        exact ⟨rest', by rw [h1, List.append_assoc]; rfl, rfl⟩
      · rw [if_neg hk, if_neg hk]
        exact hr.pre k
    · rw [if_neg hm]
      refine .inr ⟨rfl, ?_⟩
      rintro ⟨x, rest'', hx, hxi⟩
      obtain rfl : y = x := (List.cons.inj (List.append_cancel_left (h1.symm.trans hx))).1
      obtain rfl : op = opy := Option.some.inj (hop.symm.trans (hxi ▸ hopy))
      rw [hT.feas.inList m y hym] at hmach
      exact hm (List.contains_iff_mem.2 hmach)

theorem seqPassFrom_step (hv : Valid I) (hT : Target I S) (hn : NonFlexH I) : ∀ (ms : List Nat) (d : List (List Nat))
    (t : State) (pr : Bool), RInv I S t d →
    ∃ d' t' pr', jobSeqPassFrom I ms d t pr = .ok (d', t', pr') ∧ RInv I S t' d' ∧ (pr = true → pr' = true) ∧
      (pr' = false → d' = d ∧ t' = t ∧ ∀ m ∈ ms, ¬ ReadyAt S t m) := by
  intro ms
  induction ms with
  | nil => exact fun d t pr hr => ⟨d, t, pr, rfl, hr, id, fun _ => ⟨rfl, rfl, fun _ h => nomatch h⟩⟩
  | cons m ms ih =>
    intro d t pr hr
    rw [jobSeqPassFrom]
    rcases seqMachine_step hv hT hn hr m pr with ⟨d1, t1, h1, hr1⟩ | ⟨h1, hnr⟩
    · rw [h1]
      obtain ⟨d', t', pr', e, hr', g1, _⟩ := ih d1 t1 true hr1
      refine ⟨d', t', pr', e, hr', fun _ => g1 rfl, fun hp => ?_⟩
      rw [g1 rfl] at hp
      cases hp
    · rw [h1]
      obtain ⟨d', t', pr', e, hr', g1, g3⟩ := ih d t pr hr
      refine ⟨d', t', pr', e, hr', g1, fun hp => ?_⟩
      obtain ⟨a, b, c⟩ := g3 hp
      refine ⟨a, b, fun k hk => ?_⟩
      rcases List.mem_cons.1 hk with rfl | hk
      · exact hnr
      · exact c k hk

theorem sched_eq_of_all_placed (hT : Target I S) (hr : RInv I S t d)
    (hall : ∀ z ∈ S.flatten, z.pos < t.jobIdx.getD z.job 0) : t.sched = S := by
  apply ext_getD_nil _ _ (by rw [hr.cinv.wf.lenS, hT.len])
  intro m
  obtain ⟨rest, h1, _⟩ := hr.pre m
  cases rest with
  | nil => rw [h1, List.append_nil]
  | cons y rest' =>
    have hym : y ∈ S.getD m [] := h1 ▸ List.mem_append_right _ List.mem_cons_self
    exact absurd (hall y (mem_getD_flatten S m y hym))
      (Nat.not_lt.2 (unplaced_of_rest hT hr h1 y List.mem_cons_self))

theorem sched_eq_of_complete (hT : Target I S) (hr : RInv I S t d) (hcomp : isComplete I t = true) : t.sched = S := by
  apply sched_eq_of_all_placed hT hr
  intro z hz
  have hf := feasible_of_cinv hr.cinv
  have hc : Complete I t.sched := by
    apply (complete_iff_count hf).1
    rw [← numScheduled_eq]
    simpa [isComplete] using hcomp
  obtain ⟨op, hop, _, _⟩ := hT.feas.isOp z hz
  obtain ⟨x, hx, hxj, hxp⟩ := hc z.job z.pos (by simp [hop])
  have := placed_lt hr x hx
  rw [hxj, hxp] at this; exact this

theorem machine_lt_of_mem (hT : Target I S) {m : Nat} {z : SOp} (hz : z ∈ S.getD m []) : m < numMachines I := by
  rw [← hT.len]
  exact lt_length_of_getD_ne_nil (List.ne_nil_of_mem hz)

/-- **progress.**  An entry that is not yet placed yields a machine whose head entry can be dispatched: follow
machine predecessors and job predecessors; the acceptance rank decreases. -/
theorem ready_of_unplaced (hT : Target I S) (hr : RInv I S t d) (z : SOp) (hz : z ∈ S.flatten)
    (hge : t.jobIdx.getD z.job 0 ≤ z.pos) : ∃ m, m < numMachines I ∧ ReadyAt S t m := by
  obtain ⟨rk, N, _, hR1, hR2⟩ := hT.hist.rank
  generalize hn : rk z = n
  induction n using Nat.strongRecOn generalizing z with
  | ind n ih =>
    subst hn
    obtain ⟨rest, h1, hzr⟩ := mem_rest_of_ge hT hr z hz hge
    cases rest with
    | nil => cases hzr
    | cons y rest' =>
      have hym : y ∈ S.getD z.machine [] := h1 ▸ List.mem_append_right _ List.mem_cons_self
      rcases List.mem_cons.1 hzr with hzy | hzr'
      · subst hzy
        by_cases hidx : t.jobIdx.getD z.job 0 = z.pos
        · exact ⟨z.machine, machine_lt_of_mem hT hym, z, rest', h1, hidx⟩
        · have hlt := Nat.lt_of_le_of_ne hge hidx
          obtain ⟨w, hwS, hwj, hwp⟩ := hT.feas.jobPrefix z hz (t.jobIdx.getD z.job 0) hlt
          exact ih _ (hR2 w hwS z hz hwj (by rw [hwp]; exact hlt)) w hwS (by rw [hwj, hwp]; exact Nat.le_refl _) rfl
      · have hp := hR1 z.machine
        rw [h1, List.pairwise_append] at hp
        exact ih _ (List.rel_of_pairwise_cons hp.2.1 hzr') y (mem_getD_flatten S _ y hym)
          (unplaced_of_rest hT hr h1 y List.mem_cons_self) rfl

theorem exists_ready (hT : Target I S) (hr : RInv I S t d) (hcomp : ¬ isComplete I t = true) :
    ∃ m, m < numMachines I ∧ ReadyAt S t m := by
  apply Classical.byContradiction
  intro hno
  apply hcomp
  have hall : ∀ z ∈ S.flatten, z.pos < t.jobIdx.getD z.job 0 := by
    intro z hz
    apply Classical.byContradiction
    intro h
    exact hno (ready_of_unplaced hT hr z hz (Nat.le_of_not_lt h))
  have := sched_eq_of_all_placed hT hr hall
  have hlen := (complete_iff_count hT.feas).2 hT.comp
  simp only [isComplete, beq_iff_eq]
  rw [numScheduled_eq, this, hlen]

theorem seq_rebuild_fuel (hv : Valid I) (hT : Target I S) (hn : NonFlexH I) : ∀ (fuel : Nat) (d : List (List Nat))
    (t : State), RInv I S t d →
    fromJobSequences I fuel d t = .fuel ∨ ∃ s', fromJobSequences I fuel d t = .ok s' ∧ s'.sched = S := by
  intro fuel
  induction fuel with
  | zero =>
    intro d t hr
    cases hcomp : isComplete I t with
    | true => exact .inr ⟨t, fromJobSequences_of_complete hcomp, sched_eq_of_complete hT hr hcomp⟩
    | false => exact .inl (by simp only [fromJobSequences, hcomp, Bool.false_eq_true, ↓reduceIte])
  | succ fuel ih =>
    intro d t hr
    cases hcomp : isComplete I t with
    | true => exact .inr ⟨t, fromJobSequences_of_complete hcomp, sched_eq_of_complete hT hr hcomp⟩
    | false =>
      obtain ⟨d', t', pr', e, hr', _, g3⟩ := seqPassFrom_step hv hT hn (List.range d.length) d t false hr
      rw [fromJobSequences_succ hcomp, jobSeqPass, e]
      cases pr' with
      | true => exact ih d' t' hr'
      | false =>
        exfalso
        obtain ⟨m, hm, hready⟩ := exists_ready hT hr (by rw [hcomp]; exact Bool.false_ne_true)
        exact (g3 rfl).2.2 m (by rw [List.mem_range, hr.dlen]; exact hm) hready

end

theorem rinv_init {I : Instance} {S : List (List SOp)} (hT : Target I S) :
    RInv I S (init I) (S.map fun ms => ms.map (·.job)) := by
  refine ⟨cinv_init I, by simp [hT.len], ?_⟩
  intro m
  refine ⟨S.getD m [], by simp only [init, getD_replicate_nil, List.nil_append], ?_⟩
  simp only [List.getD_eq_getElem?_getD, List.getElem?_map]
  cases S[m]? <;> simp

theorem target_run (c : Cfg) (hv : Valid c.I) (evs : List Ev) (hcomp : isComplete c.I (run c evs) = true) :
    Target c.I (run c evs).sched :=
  ⟨C01_feasible c hv evs, (inv_run hv evs).cinv.wf.lenS, (C01_complete_iff c hv evs).2.1 hcomp, hinv_run hv evs⟩

/-- **C14 (job sequences round trip).**  For every valid non-flexible instance and every complete schedule built by a
dispatcher history (any accepted/rejected requests, resets, queries), `Schedule.from_job_sequences` applied to the
schedule's `job_sequences` returns the identical schedule: every entry — operation, machine, start time — in the
same per-machine order; in particular it raises nothing. -/
theorem C14_seq_rebuild (c : Cfg) (hv : Valid c.I) (hn : NonFlexH c.I) (evs : List Ev)
    (hcomp : isComplete c.I (run c evs) = true) :
    ∃ s', fromJobSequences c.I (numOps c.I + 1) (jobSequences (run c evs)) (init c.I) = .ok s' ∧
      s'.sched = (run c evs).sched := by
  have hT := target_run c hv evs hcomp
  exact (seq_rebuild_fuel hv hT hn _ _ _ (rinv_init hT)).resolve_left (C14_seq_terminates c.I hv _)

/-! non-vacuity: a non-flexible instance with zero durations and recirculation; a complete history with a rejected
request, a reset and a query -/
def rebuildInstance : Instance := [[⟨[0], 0⟩, ⟨[1], 2⟩, ⟨[0], 0⟩], [⟨[0], 0⟩, ⟨[1], 0⟩]]
def rebuildHistory : List Ev :=
  [.disp 1 0 none, .reset, .disp 0 0 none, .disp 0 1 none, .disp 1 1 none, .disp 1 0 none, .query .makespan,
   .disp 0 2 none, .disp 1 1 (some 1)]
example : Valid rebuildInstance := valid_of_validB (by decide +kernel)
example : NonFlexH rebuildInstance := fun _ _ _ => nonFlex_single (by unfold NonFlex; decide +kernel)
example : isComplete rebuildInstance (run { I := rebuildInstance } rebuildHistory) = true := by decide +kernel
example : (run { I := rebuildInstance } rebuildHistory).sched =
    [[⟨0, 0, 0, 0, 0⟩, ⟨1, 0, 0, 0, 0⟩, ⟨0, 2, 0, 2, 0⟩], [⟨0, 1, 1, 0, 2⟩, ⟨1, 1, 1, 2, 0⟩]] := by decide +kernel

/-- invariant of the loop for arbitrary input `seqs`: what was consumed of machine `m`'s queue is the job-id list of
what was placed on `m` -/
structure VInv (I : Instance) (seqs : List (List Nat)) (t : State) (d : List (List Nat)) : Prop where
  wf : WF I t
  split : ∀ m, seqs.getD m [] = (t.sched.getD m []).map (·.job) ++ d.getD m []

theorem vinv_dispatch {I : Instance} {seqs : List (List Nat)} {t t' : State} {d : List (List Nat)} {m j p : Nat}
    {rest : List Nat} (hi : VInv I seqs t d) (hd : d.getD m [] = j :: rest) (ht' : dispatch I t j p m = .ok t') :
    VInv I seqs t' (d.set m rest) := by
  obtain ⟨op, hsp⟩ := dispatch_ok ht'
  refine ⟨wf_dispSpec hi.wf hsp, fun k => ?_⟩
  rw [hsp.sched_getD hi.wf,
    getD_set_eq _ _ _ _ (lt_length_of_getD_ne_nil (by rw [hd]; exact List.cons_ne_nil _ _))]
  by_cases hk : k = m
  · subst hk
    simp only [↓reduceIte]
    rw [hi.split k, hd]
    simp
  · simp only [hk, ↓reduceIte]
    exact hi.split k

theorem prefix_sum_length {α} (L1 L2 : List (List α)) (hlen : L1.length = L2.length)
    (hp : ∀ m, ∃ rest, L2.getD m [] = L1.getD m [] ++ rest) :
    (L1.map List.length).sum ≤ (L2.map List.length).sum ∧
      ((L2.map List.length).sum ≤ (L1.map List.length).sum → L1 = L2) := by
  induction L1 generalizing L2 with
  | nil =>
    cases L2 with
    | nil => exact ⟨Nat.le_refl _, fun _ => rfl⟩
    | cons _ _ => cases hlen
  | cons a L1 ih =>
    cases L2 with
    | nil => cases hlen
    | cons b L2 =>
      obtain ⟨rest, (h0 : b = a ++ rest)⟩ := hp 0
      obtain ⟨ih1, ih2⟩ := ih L2 (Nat.succ.inj hlen) (fun m => hp (m + 1))
      subst h0
      simp only [List.map_cons, List.sum_cons, List.length_append]
      refine ⟨by omega, fun hs => ?_⟩
      obtain rfl : rest = [] := List.eq_nil_of_length_eq_zero (by omega)
      rw [ih2 (by omega), List.append_nil]

theorem jobSequences_getD (s : State) (m : Nat) :
    (jobSequences s).getD m [] = (s.sched.getD m []).map (·.job) := by
  simp only [jobSequences, List.getD_eq_getElem?_getD, List.getElem?_map]
  cases s.sched[m]? <;> simp

theorem numScheduled_jobSequences (s : State) : ((jobSequences s).map List.length).sum = numScheduled s := by
  simp [jobSequences, numScheduled, List.map_map, Function.comp_def]

/-- **C14 (job sequences: an accepted input is reproduced).**  Whatever the instance and the input sequences, if
`from_job_sequences` returns a schedule, that schedule's `job_sequences` rows are prefixes of the input rows (ids
left in a queue once the schedule is complete are silently ignored); when the input has one row per machine and no
more ids than the instance has operations, the input is reproduced exactly. -/
theorem C14_seq_converse (I : Instance) (fuel : Nat) (seqs : List (List Nat)) (s' : State)
    (h : fromJobSequences I fuel seqs (init I) = .ok s') :
    (∀ m, ∃ rest, seqs.getD m [] = (jobSequences s').getD m [] ++ rest) ∧
    (seqs.length = numMachines I → (seqs.map List.length).sum ≤ numOps I → jobSequences s' = seqs) := by
  have h0 : VInv I seqs (init I) seqs := ⟨wf_init I, fun m => by simp only [init, getD_replicate_nil, List.map_nil, List.nil_append]⟩
  obtain ⟨hc, d', hi⟩ := (fromJobSequences_induct (P := fun d t => VInv I seqs t d) (E := True)
    (fun _ _ _ _ _ _ hi hd _ _ => ⟨fun _ ht' => vinv_dispatch hi hd ht', fun _ _ => trivial⟩) fuel seqs (init I) h0).1 s' h
  have hpre : ∀ m, ∃ rest, seqs.getD m [] = (jobSequences s').getD m [] ++ rest :=
    fun m => ⟨d'.getD m [], by rw [jobSequences_getD]; exact hi.split m⟩
  refine ⟨hpre, ?_⟩
  intro hlen hsum
  apply (prefix_sum_length _ _ (by simp [jobSequences, hi.wf.lenS, hlen]) hpre).2
  have : numScheduled s' = numOps I := by simpa [isComplete] using hc
  rw [numScheduled_jobSequences]
  omega

/-- the exact converse fails without the bound on the number of ids: a trailing id is ignored -/
example : ∃ s', fromJobSequences [[⟨[0], 1⟩]] 2 [[0, 0]] (init [[⟨[0], 1⟩]]) = .ok s' ∧
    jobSequences s' = [[0]] :=
  ⟨{ sched := [[⟨0, 0, 0, 0, 1⟩]], machNext := [1], jobIdx := [1], jobNext := [1], cache := {} }, by decide +kernel, by decide +kernel⟩

end JS
