import JobShopProofs.EnvInv2
/-!
# Constructors preserve the heap invariant; the environment invariant
-/
namespace JS

theorem supported_nodup (k : FKind) : k.supported.Nodup := by cases k <;> decide

theorem resolveFts_nodup {kind : FKind} {fts : Option (List FT)} {l : List FT}
    (hnd : ∀ l, fts = some l → l.Nodup) (h : resolveFts kind fts = some l) : l.Nodup := by
  unfold resolveFts at h
  cases fts with
  | none => cases h; exact supported_nodup kind
  | some l0 =>
    simp only at h
    by_cases hall : (l0.all fun ft => kind.supported.contains ft) = true
    · rw [if_pos hall] at h; cases h; exact hnd _ rfl
    · rw [if_neg hall] at h; cases h

/-- the outcome of a constructor: the invariant, an extension, and the new observer has the requested kind -/
def CtorOK (w : FWorld) (r : FWorld × Option Nat) (kind : FKind) : Prop :=
  HeapOK r.1 ∧ WExt w r.1 ∧ ∀ id, r.2 = some id → KindAt r.1 id kind

theorem ctorOK_none {w : FWorld} (hw : HeapOK w) (kind : FKind) : CtorOK w (w, none) kind :=
  ⟨hw, WExt.refl w, fun _ h => by cases h⟩

def baseOf (I : Instance) (kind : FKind) (l : List FT) : FObs :=
  ({ kind := kind, fts := l, est := if kind == .earliestStart then estInitial I else [] } : FObs).zeroed I

theorem construct_none {w : FWorld} {kind : FKind} (hs : kind.single = true) {fts : Option (List FT)}
    (hr : resolveFts kind fts = none) : w.construct kind fts = (w, none) := by
  cases kind <;> first | contradiction | simp only [FWorld.construct, hr]

theorem construct_snd {w : FWorld} {kind : FKind} (hs : kind.single = true) {fts : Option (List FT)} {l : List FT}
    (hr : resolveFts kind fts = some l) : (w.construct kind fts).2 = some w.heap.length := by
  cases kind <;> first | contradiction | (simp only [FWorld.construct, hr]; rfl)

/-- a feature observer's constructor with feature types that resolve pushes the zeroed observer; what it does next keeps
the invariant and extends that world -/
theorem construct_some {w : FWorld} (hw : HeapOK w) {kind : FKind} (hs : kind.single = true) {fts : Option (List FT)}
    {l : List FT} (hr : resolveFts kind fts = some l) (hl : l.Nodup) :
    HeapOK (w.construct kind fts).1 ∧ WExt (w.push (baseOf w.cfg.I kind l)).1 (w.construct kind fts).1 := by
  have hb : (baseOf w.cfg.I kind l).Shaped w.cfg.I := zeroed_shaped _ _ hl
  obtain ⟨h1, _, g1⟩ := push_single_ok hw (baseOf w.cfg.I kind l) hs hb
  cases kind <;> first | contradiction | simp only [FWorld.construct, hr]
  case isReady => exact setObs_keeps h1 (push_heap_new w _) hs fun _ => keeps_isReadyFeatures w.cfg w.s hb
  case earliestStart => exact setObs_keeps h1 (push_heap_new w _) hs fun _ => keeps_estFeatures w.cfg w.s hb
  case duration => exact setObs_keeps h1 (push_heap_new w _) hs fun _ => keeps_durationInit w.cfg w.s hb
  case isScheduled => exact ⟨h1, WExt.refl _⟩
  case positionInJob => exact setObs_keeps h1 (push_heap_new w _) hs fun _ => keeps_positionInit w.cfg w.s hb
  case remainingOps =>
    obtain ⟨h2, e2, _⟩ := getUnscheduled_ok h1
    obtain ⟨h3, e3⟩ := setObs_keeps h2 ((getUnscheduled_edits _ _).1.keep (push_heap_new w _)) hs
      (keeps_remainingInit _ _)
    exact ⟨h3, e2.trans e3⟩
  case isCompleted => exact isCompletedInit_ok h1 g1

theorem construct_feature {w : FWorld} (hw : HeapOK w) (kind : FKind) (hs : kind.single = true) (fts : Option (List FT))
    (hnd : ∀ l, fts = some l → l.Nodup) : CtorOK w (w.construct kind fts) kind := by
  cases hr : resolveFts kind fts with
  | none => rw [construct_none hs hr]; exact ctorOK_none hw kind
  | some l =>
    obtain ⟨h1, e1⟩ := construct_some hw hs hr (resolveFts_nodup hnd hr)
    refine ⟨h1, (push_ext w _).trans e1, fun id hid => ?_⟩
    cases (construct_snd hs hr).symm.trans hid
    exact KindAt.ext ⟨_, push_heap_new w _, rfl⟩ e1

/-- the constructors of the four singleton observers without features: refused when an observer of the kind is subscribed,
otherwise one push of an observer of the kind -/
theorem construct_plain_cases (w : FWorld) {kind : FKind}
    (hk : kind = .unscheduled ∨ kind = .history ∨ kind = .makespanReward ∨ kind = .idleReward) :
    ((w.subs.any fun id => (w.heap[id]?.map (·.kind)) == some kind) = true ∧ w.construct kind none = (w, none)) ∨
    ((w.subs.any fun id => (w.heap[id]?.map (·.kind)) == some kind) = false ∧
      ∃ o, o.kind = kind ∧ w.construct kind none = ((w.push o).1, some (w.push o).2)) := by
  cases hb : (w.subs.any fun id => (w.heap[id]?.map (·.kind)) == some kind)
  · refine Or.inr ⟨rfl, ?_⟩
    rcases hk with rfl | rfl | rfl | rfl
    all_goals
      unfold FWorld.construct
      simp only [hb, Bool.false_eq_true, ↓reduceIte]
      exact ⟨_, rfl, rfl⟩
  · refine Or.inl ⟨rfl, ?_⟩
    rcases hk with rfl | rfl | rfl | rfl
    all_goals
      unfold FWorld.construct
      simp only [hb, ↓reduceIte]

theorem construct_plain {w : FWorld} (hw : HeapOK w) (kind : FKind)
    (hk : kind = .unscheduled ∨ kind = .history ∨ kind = .makespanReward ∨ kind = .idleReward) :
    CtorOK w (w.construct kind none) kind := by
  rcases construct_plain_cases w hk with ⟨_, e⟩ | ⟨_, o, ho, e⟩
  · rw [e]; exact ctorOK_none hw _
  · rw [e]
    obtain ⟨a, b, c⟩ := push_plain_ok hw o (ho ▸ hk)
    exact ⟨a, b, fun id h => by cases h; rw [ho] at c; exact c⟩

end JS
