import JobShopProofs.Properties.C18
import JobShopProofs.Properties.C09
/-!
# C09, environment clause: a rejected decision leaves the environment exactly as it was

An illegal decision (`Env.legal = false`: unknown or finished job, ineligible machine id, `-1` on an operation that does
not have exactly one machine) makes `step` raise and return the very same environment — every field: dispatcher state,
every observer, the graph — for the single-instance and for the multi-instance environment; rejected decisions can be
deleted from any history; conversely a legal decision is accepted by the dispatcher, and for reachable environments a
step raises exactly when the decision is illegal.
-/
namespace JS

theorem getOp_eq_none_iff (I : Instance) (j p : Nat) :
    getOp I j p = none ↔ (j ≥ I.length ∨ p ≥ (I.getD j []).length) := by
  unfold getOp
  by_cases hj : j < I.length
  · simp only [List.getElem?_eq_getElem hj, Option.bind_some, List.getD_eq_getElem?_getD, Option.getD_some,
      List.getElem?_eq_none_iff]
    omega
  · have : I[j]? = none := List.getElem?_eq_none_iff.2 (by omega)
    simp only [this, Option.bind_none, true_iff]
    exact Or.inl (by omega)

/-- `resolveMachine` returns an eligible machine exactly when the decision is legal for the operation -/
theorem resolveMachine_decision (op : Op) (machine : Int) :
    match resolveMachine op (if machine == -1 then none else some machine) with
    | .ok mm => mm ∈ op.machines ∧
      (if machine == -1 then op.machines.length == 1 else decide (0 ≤ machine) && op.machines.contains machine.toNat) = true
    | .error _ =>
      (if machine == -1 then op.machines.length == 1 else decide (0 ≤ machine) && op.machines.contains machine.toNat) = false := by
  by_cases hm : (machine == -1) = true
  · simp only [hm, ↓reduceIte, resolveMachine]
    generalize op.machines = ms
    match ms with
    | [] => rfl
    | [m0] => exact ⟨List.mem_singleton_self m0, rfl⟩
    | _ :: _ :: t =>
      rw [if_pos (by simp only [List.length_cons]; omega)]
      simp only [List.length_cons, beq_eq_false_iff_ne]
      omega
  · simp only [hm, Bool.false_eq_true, ↓reduceIte, resolveMachine]
    by_cases hneg : machine < 0
    · rw [if_pos hneg]
      simp only [Bool.and_eq_false_iff, decide_eq_false_iff_not]
      exact Or.inl (by omega)
    · rw [if_neg hneg]
      by_cases hmem : machine.toNat ∈ op.machines
      · rw [if_pos hmem]
        simp only [Bool.and_eq_true, decide_eq_true_eq, List.contains_iff_mem]
        exact ⟨hmem, by omega, hmem⟩
      · rw [if_neg hmem]
        simp only [Bool.and_eq_false_iff, List.contains_eq_mem, decide_eq_false_iff_not]
        exact Or.inr hmem

/-- an illegal decision on an existing operation is rejected by the dispatcher (no validity hypothesis: `-1` on an
operation with an empty machine list is rejected too) -/
theorem dispatchReq_illegal (I : Instance) (s : State) (j : Nat) (machine : Int) (op : Op)
    (hop : getOp I j (s.jobIdx.getD j 0) = some op)
    (hill : (if machine == -1 then op.machines.length == 1
             else decide (0 ≤ machine) && op.machines.contains machine.toNat) = false) :
    ∃ e, dispatchReq I s j (s.jobIdx.getD j 0) (if machine == -1 then none else some machine) = .error e := by
  have hr := resolveMachine_decision op machine
  unfold dispatchReq
  simp only [hop, ne_eq, not_true_eq_false, ↓reduceIte]
  generalize resolveMachine op (if machine == -1 then none else some machine) = r at hr ⊢
  cases r with
  | error e => exact ⟨e, rfl⟩
  | ok mm => cases hill.symm.trans hr.2

theorem dispatchReq_legal (I : Instance) (s : State) (hc : CInv I s) (j : Nat) (machine : Int) (op : Op)
    (hop : getOp I j (s.jobIdx.getD j 0) = some op)
    (hleg : (if machine == -1 then op.machines.length == 1
             else decide (0 ≤ machine) && op.machines.contains machine.toNat) = true) :
    ∃ s', dispatchReq I s j (s.jobIdx.getD j 0) (if machine == -1 then none else some machine) = .ok s' := by
  have hr := resolveMachine_decision op machine
  unfold dispatchReq
  simp only [hop, ne_eq, not_true_eq_false, ↓reduceIte]
  generalize resolveMachine op (if machine == -1 then none else some machine) = r at hr ⊢
  cases r with
  | error e => cases hr.symm.trans hleg
  | ok mm => exact dispatch_accepts hc hop rfl hr.1

/-- **C09 (1).** An illegal decision is rejected and the environment is EXACTLY what it was (every field: dispatcher
state, every observer, the graph). -/
theorem C09_env_illegal_rejected (e : Env) (job : Nat) (machine : Int) (hill : e.legal job machine = false) :
    e.step job machine = (e, .raised) := by
  rcases Env.step_cases e job machine with ⟨h, _⟩ | ⟨w', hd, h1, h2, _⟩
  · exact h
  · unfold Env.legal at hill
    cases hop : getOp e.w.cfg.I job (e.w.s.jobIdx.getD job 0) with
    | none => rcases (getOp_eq_none_iff _ _ _).1 hop with h | h <;> omega
    | some op =>
      rw [hop] at hill
      obtain ⟨er, her⟩ := dispatchReq_illegal e.w.cfg.I e.w.s job machine op hop hill
      obtain ⟨s', hs'⟩ := (e.w.dispatch_accepted _ _ _).1 (congrArg Prod.snd hd)
      cases her.symm.trans hs'

/-- **C09 (2).** The same for the multi-instance environment. -/
theorem C09_multi_illegal_rejected (m : MultiEnv) (job : Nat) (machine : Int) (hill : m.env.legal job machine = false) :
    m.step job machine = (m, .raised) := by
  unfold MultiEnv.step
  rw [C09_env_illegal_rejected m.env job machine hill]

/-- **C09 (3).** As if never made: rejected decisions can be deleted from any history (single environment). -/
theorem C09_env_as_if_never (e : Env) (h1 h2 : List EnvEv) (job : Nat) (machine : Int)
    (hill : (e.runEvs h1).legal job machine = false) :
    e.runEvs (h1 ++ [.step job machine] ++ h2) = e.runEvs (h1 ++ h2) := by
  rw [List.append_assoc]
  exact foldl_skip_of_fixed Env.apply e h1 h2 _ (congrArg Prod.fst (C09_env_illegal_rejected (e.runEvs h1) job machine hill))

/-- **C09 (4).** … and from any history of the multi-instance environment (episodes, resets onto new instances
included). -/
theorem C09_multi_as_if_never (m : MultiEnv) (h1 h2 : List MEv) (job : Nat) (machine : Int)
    (hill : (m.run h1).env.legal job machine = false) :
    m.run (h1 ++ [.step job machine] ++ h2) = m.run (h1 ++ h2) := by
  rw [List.append_assoc]
  exact foldl_skip_of_fixed MultiEnv.stepEv m h1 h2 _ (congrArg Prod.fst (C09_multi_illegal_rejected (m.run h1) job machine hill))

/-- **C09 (5).** Conversely: on a valid instance a legal decision is accepted by the dispatcher of the environment (the
request the step makes does not raise), so "rejected" and "illegal" coincide at the dispatcher. -/
theorem C09_env_legal_dispatches (e : Env) (hv : Valid e.w.cfg.I) (hinv : CInv e.w.cfg.I e.w.s) (job : Nat) (machine : Int)
    (hleg : e.legal job machine = true) :
    (e.w.dispatch job (e.w.s.jobIdx.getD job 0) (if machine == -1 then none else some machine)).2 = true := by
  unfold Env.legal at hleg
  cases hop : getOp e.w.cfg.I job (e.w.s.jobIdx.getD job 0) with
  | none => rw [hop] at hleg; cases hleg
  | some op =>
    rw [hop] at hleg
    exact (e.w.dispatch_accepted _ _ _).2 (dispatchReq_legal e.w.cfg.I e.w.s hinv job machine op hop hleg)

theorem Env.step_of_accepted (e : Env) (job : Nat) (machine : Int) (op : Op) (w' : FWorld)
    (hop : getOp e.w.cfg.I job (e.w.s.jobIdx.getD job 0) = some op)
    (hdd : e.w.dispatch job (e.w.s.jobIdx.getD job 0) (if machine == -1 then none else some machine) = (w', true)) :
    (e.step job machine).1 = { e with w := w' } ∧
    ((e.step job machine).2 = .raised → ({ e with w := w' } : Env).observation = none) := by
  rcases Env.step_cases e job machine with ⟨_, h⟩ | ⟨w'', hd, _, _, h⟩
  · exfalso
    rw [hdd] at h
    have := (getOp_eq_none_iff e.w.cfg.I job (e.w.s.jobIdx.getD job 0)).2
    rcases h with h | h | h
    · rw [this (Or.inl h)] at hop; cases hop
    · rw [this (Or.inr h)] at hop; cases hop
    · cases h
  · cases hdd.symm.trans hd
    rcases h with ⟨ho, he⟩ | ⟨obs, _, he⟩
    · exact ⟨congrArg Prod.fst he, fun _ => ho⟩
    · rw [he]; exact ⟨rfl, fun h => nomatch h⟩

/-- **C09 (6).** For an environment built by the constructor on a valid instance and driven through any steps and
resets, a step raises exactly when the decision is illegal. -/
theorem C09_env_raises_iff_illegal (c : Cfg) (hv : Valid c.I) (ec : EnvCfg) (e0 : Env) (hf : FeatsOK ec.feats)
    (hpad : ec.usePadding = true) (hmk : Env.make c ec = some e0) (evs : List EnvEv) (job : Nat) (machine : Int) :
    let e := e0.runEvs evs
    (e.step job machine).2 = .raised ↔ e.legal job machine = false := by
  intro e
  constructor
  · intro hr
    cases hl : e.legal job machine with
    | false => rfl
    | true =>
      exfalso
      have hre : EnvReach c ec e0 e := Env.runEvs_reach hf hmk evs
      have hd := C09_env_legal_dispatches e (hre.cfg ▸ hv) (hre.cfg ▸ hre.cinv hv) job machine hl
      -- the observation of the environment after the step exists (C18)
      obtain ⟨o, ho, _⟩ := hre.step_observation hpad job machine
      unfold Env.legal at hl
      cases hop : getOp e.w.cfg.I job (e.w.s.jobIdx.getD job 0) with
      | none => rw [hop] at hl; cases hl
      | some op =>
        rcases hdd : e.w.dispatch job (e.w.s.jobIdx.getD job 0) (if machine == -1 then none else some machine)
          with ⟨w', b⟩
        rw [hdd] at hd
        simp only at hd
        subst hd
        obtain ⟨hw', hnone⟩ := Env.step_of_accepted e job machine op w' hop hdd
        rw [hw', hnone hr] at ho
        cases ho
  · intro hill
    rw [C09_env_illegal_rejected e job machine hill]

/-! non-vacuity: an environment made by the constructor on a three-job instance whose job 0 ends with a flexible
operation, stepped twice (job 1 is then finished, job 0 is at its flexible operation, job 2 at a single-machine one):
one illegal decision of each kind, and the legal ones; the illegal ones raise, the legal ones do not -/
set_option maxRecDepth 100000 in
example :
    let c : Cfg := { I := [[⟨[0], 2⟩, ⟨[0, 1], 3⟩], [⟨[1], 4⟩], [⟨[1], 1⟩]], F := some [.dominated] }
    let ec : EnvCfg := { builder := .agentTask, feats := [(.isReady, none), (.duration, some [.machines, .operations]),
      (.isCompleted, some [.jobs])] }
    (Env.make c ec).map (fun e0 =>
      let e := e0.runEvs [.step 1 (-1), .step 0 (-1)]
      (e.w.s.jobIdx,
       -- finished job (with `-1` and with its machine), unknown job, ineligible machine (in range, negative),
       -- `-1` on the flexible operation, wrong machine for the single-machine operation
       [e.legal 1 (-1), e.legal 1 1, e.legal 5 0, e.legal 0 2, e.legal 0 (-3), e.legal 0 (-1), e.legal 2 0],
       -- legal: either machine of the flexible operation, `-1` or the machine of the single-machine operation
       [e.legal 0 0, e.legal 0 1, e.legal 2 (-1), e.legal 2 1],
       [(e.step 1 (-1)).2 == .raised, (e.step 5 0).2 == .raised, (e.step 0 2).2 == .raised,
        (e.step 0 (-1)).2 == .raised, (e.step 0 1).2 == .raised, (e.step 2 (-1)).2 == .raised])) =
    some ([1, 1, 0], [false, false, false, false, false, false, false], [true, true, true, true],
          [true, true, true, true, false, false]) := by
  decide +kernel

/-- the hypotheses of (6) hold for that environment: valid instance, admissible feature configuration, padding on -/
example :
    let c : Cfg := { I := [[⟨[0], 2⟩, ⟨[0, 1], 3⟩], [⟨[1], 4⟩], [⟨[1], 1⟩]], F := some [.dominated] }
    let ec : EnvCfg := { builder := .agentTask, feats := [(.isReady, none), (.duration, some [.machines, .operations]),
      (.isCompleted, some [.jobs])] }
    Valid c.I ∧ FeatsOK ec.feats ∧ ec.usePadding = true := by
  exact ⟨valid_of_validB (by decide), featsOK_of_all (by decide), rfl⟩

end JS
