import JobShopProofs.Properties.C11World
/-!
# Unsubscribed and never-subscribed observers receive nothing (C10, feature world)

`FWorld.unsubscribe w id` removes `id` from the subscriber list; the object stays in the heap.  The dispatcher notifies the
subscribers only, every callback writes (a) the observer it is called on, (b) observers it finds with `findObs` — which scans the
subscribers only — and (c) observers it has just created (pushed at the end of the heap, subscribed).  Hence a heap entry that is
not subscribed is never written again: `Off id o w` (entry `id` holds `o` and `id` is not subscribed) is preserved by every event.

This holds for EVERY kind, helpers included: `IsCompletedObserver.reset` and `RemainingOperationsObserver.reset` obtain their
helper with `create_or_get_observer`, i.e. among the subscribers, on every call (they keep no reference), so an unsubscribed helper
is not reset by its would-be owner — the owner builds (and subscribes) a new one instead.

The statements: (1) an unsubscribed observer is frozen, (2) so is one that was never subscribed
(`C10_world_unsubscribed_frozen_any`, `C10_world_nonsubscribed_frozen_any`); (3) the look-ups hand out subscribers only
(`C10_findObs_subscribed`); (4) the residual graph updater's helper is always a subscribed observer (`C17_residual_helpers_*`).
-/
namespace JS

/-- events after the unsubscription: anything, including further unsubscriptions -/
inductive FEvU
  | ev (e : FEv)
  | unsub (k : Nat)

def FWorld.stepU (w : FWorld) : FEvU → FWorld
  | .ev e => w.step e
  | .unsub k => (w.unsubscribe k).1

/-- heap entry `id` holds `o` and is not subscribed -/
def Off (id : Nat) (o : FObs) (w : FWorld) : Prop := w.heap[id]? = some o ∧ id ∉ w.subs

/-- (3) the lookups never hand out an unsubscribed observer: whatever `findObs` returns is subscribed -/
theorem C10_findObs_subscribed (w : FWorld) (k : FKind) (need : List FT) (id : Nat) (h : w.findObs k need = some id) :
    id ∈ w.subs :=
  (findObs_subAt h).1

theorem off_push {id : Nat} {o : FObs} {w : FWorld} (h : Off id o w) (x : FObs) : Off id o (w.push x).1 := by
  obtain ⟨h1, h2⟩ := h
  have hlt : id < w.heap.length := (List.getElem?_eq_some_iff.1 h1).1
  refine ⟨?_, ?_⟩
  · simp only [FWorld.push]
    rw [List.getElem?_append_left hlt]; exact h1
  · simp only [FWorld.push, List.mem_append, List.mem_singleton, not_or]
    exact ⟨h2, by omega⟩

theorem off_setObs {id : Nat} {o : FObs} {w : FWorld} (h : Off id o w) {k : Nat} (hk : k ∈ w.subs) (x : FObs) :
    Off id o (w.setObs k x) := by
  obtain ⟨h1, h2⟩ := h
  have hne : k ≠ id := fun e => h2 (e ▸ hk)
  exact ⟨by simp only [FWorld.setObs]; rw [List.getElem?_set_ne hne]; exact h1, h2⟩

/-- pushes land beyond `id`, rewrites hit subscribers only -/
theorem Off.of_edits {id : Nat} {o : FObs} {N : FObs → Prop} {lo : Nat} {w w' : FWorld} (h : Off id o w)
    (e : Edits N lo w w') : Off id o w' := by
  induction e with
  | refl => exact h
  | push x _ _ ih => exact off_push ih x
  | set x _ _ hk _ _ ih => exact off_setObs ih hk x

theorem off_callUpdate {id : Nat} {o : FObs} {w : FWorld} (h : Off id o w) (x : SOp) {k : Nat} (hk : k ∈ w.subs) :
    Off id o (w.callUpdate x k) := by
  obtain ⟨h1, h2⟩ := h
  have hne : k ≠ id := fun e => h2 (e ▸ hk)
  exact ⟨(callUpdate_other w x hne).trans h1, (callUpdate_shell w x k).1 ▸ h2⟩

theorem off_callReset {id : Nat} {o : FObs} {w : FWorld} (h : Off id o w) {k : Nat} (hk : k ∈ w.subs) :
    Off id o (w.callReset k) := by
  cases ho : w.heap[k]? with
  | none => rw [callReset_none ho]; exact h
  | some ob =>
    cases ht : ob.kind.tunable with
    | true => exact h.of_edits (callReset_edits hk ho ht)
    | false => rw [callReset_own ho ht]; exact off_setObs h hk _

theorem off_dispatch {id : Nat} {o : FObs} {w : FWorld} (h : Off id o w) (j p : Nat) (m : Option Int) :
    Off id o (w.dispatch j p m).1 := by
  unfold FWorld.dispatch
  cases dispatchReq w.cfg.I w.s j p m with
  | error e => exact h
  | ok s' =>
    simp only
    cases (s'.sched.flatten.find? fun x => x.job == j && x.pos == p) with
    | none => exact h
    | some x =>
      exact foldl_subs (P := Off id o) (fun w k _ _ hk => (callUpdate_shell w x k).1 ▸ hk)
        (fun w k hk hw => off_callUpdate hw x hk) w.subs { w with s := s' } (fun k hk => hk) h

theorem off_reset {id : Nat} {o : FObs} {w : FWorld} (h : Off id o w) : Off id o w.reset :=
  foldl_subs (P := Off id o) (fun _ _ _ => callReset_mem_subs) (fun w k hk hw => off_callReset hw hk) w.subs
    { w with s := JS.init w.cfg.I } (fun k hk => hk) h

theorem off_constructResidual {id : Nat} {o : FObs} {w : FWorld} (h : Off id o w) (g : Graph) (rm rj : Bool) :
    Off id o (w.constructResidual g rm rj).1 :=
  h.of_edits (constructResidual_edits w g rm rj)

theorem off_step {id : Nat} {o : FObs} {w : FWorld} (h : Off id o w) (e : FEv) : Off id o (w.step e) := by
  cases e with
  | disp j p m => exact off_dispatch h j p m
  | reset => exact off_reset h
  | construct k fts => exact h.of_edits (construct_edits w k fts)
  | composite parts => exact off_setObs (off_push h _) (by simp [FWorld.push]) _
  | residual b rm rj => exact off_constructResidual h _ rm rj

theorem off_unsubscribe {id : Nat} {o : FObs} {w : FWorld} (h : Off id o w) (k : Nat) : Off id o (w.unsubscribe k).1 := by
  unfold FWorld.unsubscribe
  split
  · exact ⟨h.1, fun hm => h.2 (List.mem_of_mem_erase hm)⟩
  · exact h

theorem off_stepU {id : Nat} {o : FObs} {w : FWorld} (h : Off id o w) (e : FEvU) : Off id o (w.stepU e) := by
  cases e with
  | ev e => exact off_step h e
  | unsub k => exact off_unsubscribe h k

theorem off_foldl_stepU {id : Nat} {o : FObs} : ∀ (post : List FEvU) (w : FWorld), Off id o w → Off id o (post.foldl FWorld.stepU w)
  | [], _, h => h
  | e :: t, w, h => by simp only [List.foldl_cons]; exact off_foldl_stepU t _ (off_stepU h e)

theorem unsubscribe_off (w : FWorld) (hs : w.subs.Nodup) (id : Nat) (o : FObs) (ho : w.heap[id]? = some o) :
    Off id o (w.unsubscribe id).1 := by
  unfold FWorld.unsubscribe
  split
  · exact ⟨ho, fun hm => ((List.Nodup.mem_erase_iff hs).1 hm).1 rfl⟩
  · rename_i hc
    exact ⟨ho, fun hm => hc (by simpa using hm)⟩

/-- (1), every kind (helpers included): after `unsubscribe id`, whatever happens later — dispatch requests, resets, constructions
of any observers (which may look for helpers), unsubscriptions — entry `id` of the heap is what it was and `id` stays unsubscribed -/
theorem C10_world_unsubscribed_frozen_any (w : FWorld) (hs : w.subs.Nodup) (id : Nat) (o : FObs) (ho : w.heap[id]? = some o)
    (post : List FEvU) :
    (post.foldl FWorld.stepU (w.unsubscribe id).1).heap[id]? = some o ∧ id ∉ (post.foldl FWorld.stepU (w.unsubscribe id).1).subs :=
  off_foldl_stepU post _ (unsubscribe_off w hs id o ho)

/-- (2), every kind -/
theorem C10_world_nonsubscribed_frozen_any (w : FWorld) (id : Nat) (o : FObs) (ho : w.heap[id]? = some o) (hn : id ∉ w.subs)
    (post : List FEvU) :
    (post.foldl FWorld.stepU w).heap[id]? = some o ∧ id ∉ (post.foldl FWorld.stepU w).subs :=
  off_foldl_stepU post w ⟨ho, hn⟩

/-- (1) nothing the dispatcher does reaches an unsubscribed observer: after `unsubscribe id`, for every later history (dispatch
requests, resets, constructions, other unsubscriptions) the heap entry of `id` is exactly what it was.  (`hk` is not used: see
`C10_world_unsubscribed_frozen_any`; `hs` is what makes `list.remove` remove the only occurrence.) -/
theorem C10_world_unsubscribed_frozen (w : FWorld) (hs : w.subs.Nodup) (id : Nat) (o : FObs) (ho : w.heap[id]? = some o)
    (hk : o.kind ≠ .remainingOps ∧ o.kind ≠ .unscheduled ∧ o.kind ≠ .isCompleted)
    (post : List FEvU) :
    (post.foldl FWorld.stepU (w.unsubscribe id).1).heap[id]? = some o ∧ id ∉ (post.foldl FWorld.stepU (w.unsubscribe id).1).subs := by
  have _ := hk
  exact C10_world_unsubscribed_frozen_any w hs id o ho post

/-- (2) an observer that was never subscribed (built with `subscribe=False`: in the model, an entry of the heap that is not in
`subs`) is equally out of reach.  (`hs`, `hk` are not used: see `C10_world_nonsubscribed_frozen_any`.) -/
theorem C10_world_nonsubscribed_frozen (w : FWorld) (hs : SubsOK w) (id : Nat) (o : FObs) (ho : w.heap[id]? = some o)
    (hn : id ∉ w.subs)
    (hk : o.kind ≠ .remainingOps ∧ o.kind ≠ .unscheduled ∧ o.kind ≠ .isCompleted) (post : List FEvU) :
    (post.foldl FWorld.stepU w).heap[id]? = some o ∧ id ∉ (post.foldl FWorld.stepU w).subs := by
  have _ := hs
  have _ := hk
  exact C10_world_nonsubscribed_frozen_any w id o ho hn post

/-- without the duplicate-freeness of the subscriber list (1) fails: `list.remove` removes the first occurrence only -/
example :
    let w : FWorld := { cfg := { I := [] }, s := JS.init [], subs := [0, 0], heap := [{ kind := .history }] }
    0 ∈ (w.unsubscribe 0).1.subs := by decide +kernel

/-- (4) the id of the updater and the helper ids it records (field `parts`: `[id of its IsCompletedObserver]`, or `[]` when
neither kind of node is to be removed) are subscribed: a would-be helper that was unsubscribed before the updater is attached is
not among them -/
theorem C17_residual_helpers_subscribed (w : FWorld) (hs : SubsOK w) (g : Graph) (rm rj : Bool) (w' : FWorld) (uid : Nat)
    (h : w.constructResidual g rm rj = (w', some uid)) :
    uid ∈ w'.subs ∧ ∀ o, w'.heap[uid]? = some o → ∀ p ∈ o.parts, p ∈ w'.subs := by
  have _ := hs
  obtain ⟨w1, parts, _, rfl, rfl, hp⟩ := constructResidual_some h
  refine ⟨by simp [FWorld.push], fun o ho p hp' => ?_⟩
  rw [push_heap_new] at ho
  cases ho
  rcases hp with ⟨_, _, rfl⟩ | ⟨_, q, rfl, hq⟩
  · cases hp'
  · rw [List.mem_singleton.1 hp']
    exact List.mem_append_left _ hq.1

/-- (4), in detail: what the updater records.  `parts = []` when neither machine nor job nodes are to be removed (no helper is
obtained at all); otherwise `parts = [p]` where `p` is a SUBSCRIBED `IsCompletedObserver` with the feature types the updater reads -/
theorem C17_residual_helpers_detail (w : FWorld) (g : Graph) (rm rj : Bool) (w' : FWorld) (uid : Nat)
    (h : w.constructResidual g rm rj = (w', some uid)) :
    ∃ o, w'.heap[uid]? = some o ∧ o.kind = .residual ∧
      (rm = false ∧ rj = false → o.parts = []) ∧
      (rm = true ∨ rj = true → ∃ p ic, o.parts = [p] ∧ p ∈ w'.subs ∧ p ≠ uid ∧ w'.heap[p]? = some ic ∧ ic.kind = .isCompleted ∧
        (rm = true → FT.machines ∈ ic.fts) ∧ (rj = true → FT.jobs ∈ ic.fts)) := by
  obtain ⟨w1, parts, _, rfl, rfl, hp⟩ := constructResidual_some h
  refine ⟨_, push_heap_new _ _, rfl, ?_, ?_⟩
  · rintro ⟨rfl, rfl⟩
    rcases hp with ⟨_, _, rfl⟩ | ⟨hor, _⟩
    · rfl
    · simp at hor
  · intro hor
    rcases hp with ⟨rfl, rfl, _⟩ | ⟨_, q, rfl, hq, ic, hic, hk, hn⟩
    · simp at hor
    · have hlt := (List.getElem?_eq_some_iff.1 hic).1
      refine ⟨q, ic, rfl, List.mem_append_left _ hq, Nat.ne_of_lt hlt, ?_, hk, ?_, ?_⟩
      · simp only [FWorld.push]; rw [List.getElem?_append_left hlt]; exact hic
      · rintro rfl; exact hn _ (by simp)
      · rintro rfl; exact hn _ (by simp)

/-- (4), the point of it: an `IsCompletedObserver` (or anything else) `hid` that is in the heap but not subscribed — unsubscribed
before the updater is attached — is neither taken as helper nor touched: the updater's helper is another, subscribed, observer -/
theorem C17_residual_helper_not_unsubscribed (w : FWorld) (g : Graph) (rm rj : Bool) (w' : FWorld) (uid : Nat)
    (h : w.constructResidual g rm rj = (w', some uid)) (hid : Nat) (oh : FObs) (hoh : w.heap[hid]? = some oh) (hn : hid ∉ w.subs) :
    w'.heap[hid]? = some oh ∧ hid ∉ w'.subs ∧ ∀ o, w'.heap[uid]? = some o → hid ∉ o.parts := by
  have hoff : Off hid oh (w.constructResidual g rm rj).1 := off_constructResidual ⟨hoh, hn⟩ g rm rj
  rw [h] at hoff
  refine ⟨hoff.1, hoff.2, fun o ho hp => hoff.2 ?_⟩
  obtain ⟨o', ho', _, h1, h2⟩ := C17_residual_helpers_detail w g rm rj w' uid h
  rw [ho] at ho'; cases ho'
  cases rm <;> cases rj
  · rw [h1 ⟨rfl, rfl⟩] at hp; cases hp
  all_goals
    obtain ⟨p, ic, e, hm, _⟩ := h2 (by simp)
    rw [e, List.mem_singleton] at hp
    rw [hp]; exact hm

/-! on `c11Instance`: `isReady` (0), `earliestStart` (1), `history` (2) are constructed, one dispatch; `earliestStart` is
unsubscribed; two more dispatches and a reset: entry 1 is what it was (and stale: a subscribed twin would have been rewritten),
entries 0 and 2 changed, the subscribers are `[0, 2]` -/
set_option maxRecDepth 100000 in
example :
    let w0 := FWorld.run { I := c11Instance }
      [.construct .isReady none, .construct .earliestStart none, .construct .history none, .disp 0 0 (some 1)]
    let w1 := [FEvU.ev (.disp 1 0 none), .ev (.disp 0 1 none), .ev .reset].foldl FWorld.stepU (w0.unsubscribe 1).1
    w0.subs = [0, 1, 2] ∧ (w0.unsubscribe 1).2 = true ∧ w1.subs = [0, 2] ∧ numScheduled w0.s = 1 ∧
    w1.heap[1]? = w0.heap[1]? ∧ (w0.heap[1]?.map (·.kind)) = some .earliestStart := by decide +kernel

set_option maxRecDepth 100000 in
example :
    let w0 := FWorld.run { I := c11Instance }
      [.construct .isReady none, .construct .earliestStart none, .construct .history none, .disp 0 0 (some 1)]
    let w1 := [FEvU.ev (.disp 1 0 none), .ev (.disp 0 1 none), .ev .reset].foldl FWorld.stepU (w0.unsubscribe 1).1
    w1.heap[0]? ≠ w0.heap[0]? ∧ w1.heap[2]? ≠ w0.heap[2]? := by decide +kernel

/-! the same history without the unsubscription: entry 1 is rewritten -/
set_option maxRecDepth 100000 in
example :
    let w0 := FWorld.run { I := c11Instance }
      [.construct .isReady none, .construct .earliestStart none, .construct .history none, .disp 0 0 (some 1)]
    let w1' := [FEvU.ev (.disp 1 0 none), .ev (.disp 0 1 none), .ev .reset].foldl FWorld.stepU w0
    w1'.heap[1]? ≠ w0.heap[1]? := by decide +kernel

/-! helpers too: `isCompleted` (0) creates `remainingOps` (1) and `unscheduled` (2); the helper 1 is unsubscribed; dispatch, reset
(the owner looks its helper up among the subscribers, finds none, builds 3), dispatch: entry 1 is what it was, the new helper 3 is
subscribed and counts -/
set_option maxRecDepth 100000 in
example :
    let w0 := FWorld.run { I := c11Instance } [.construct .isCompleted none, .disp 0 0 (some 1)]
    let w1 := [FEvU.unsub 1, .ev (.disp 1 0 none), .ev .reset, .ev (.disp 1 0 none)].foldl FWorld.stepU w0
    w0.subs = [0, 1, 2] ∧ (w0.heap.map (·.kind)) = [.isCompleted, .remainingOps, .unscheduled] ∧
    w1.subs = [0, 2, 3] ∧ w1.heap[1]? = w0.heap[1]? ∧
    (w1.heap[1]?.map fun o => o.col .jobs) = some [1, 3] ∧
    (w1.heap[3]?.map fun o => (o.kind, o.col .jobs)) = some (.remainingOps, [2, 2]) := by decide +kernel

/-! a residual updater attached after its would-be helper was unsubscribed builds a new one -/
set_option maxRecDepth 100000 in
example :
    let w0 := FWorld.run { I := c11Instance } [.construct .isCompleted none]
    let r := (w0.unsubscribe 0).1.constructResidual (build .agentTask c11Instance) true true
    w0.subs = [0, 1, 2] ∧ r.2 = some 4 ∧ r.1.subs = [1, 2, 3, 4] ∧
    (r.1.heap[4]?.map fun o => (o.kind, o.parts)) = some (.residual, [3]) ∧
    (r.1.heap[3]?.map (·.kind)) = some .isCompleted ∧ r.1.heap[0]? = w0.heap[0]? := by decide +kernel

end JS
