import JobShopModel.World
import JobShopProofs.Reach
/-!
# The notification loop

`notifyAll` threads the dispatcher state through the observers because an observer may query the
dispatcher (and thereby fill its memo).  Under memo coherence every such query returns the pure value, so
the loop is equivalent to the pure `notifyPure`, and the dispatcher changes only in its memo.
-/
namespace JS

/-- what a recorder is guaranteed to see: the pure, from-scratch view of state `s` -/
def snapshotSpec (c : Cfg) (s : State) : Snapshot :=
  { sched := s.sched, machNext := s.machNext, jobIdx := s.jobIdx, jobNext := s.jobNext,
    currentTime := currentTimePure c s, unscheduled := unscheduledPure c.I s }

theorem takeSnapshot_ok (c : Cfg) (s : State) (h : CacheOK c s) :
    (takeSnapshot c s).1 = snapshotSpec c s ∧ CacheOK c (takeSnapshot c s).2 ∧
      ∃ k, (takeSnapshot c s).2 = setCache s k := by
  obtain ⟨hv1, hok1, k1, hk1⟩ := qCurrentTime_ok c s h
  obtain ⟨hv2, hok2, k2, hk2⟩ := qUnscheduled_ok c (qCurrentTime c s).2 hok1
  refine ⟨?_, hok2, ⟨k2, ?_⟩⟩
  · rw [hk1] at hv2
    simp only [takeSnapshot, snapshotSpec, hv1, hk1, hv2, unscheduledPure_setCache]
  · rw [hk1] at hk2
    simp only [takeSnapshot, hk1, hk2, setCache_setCache]

/-- pure meaning of `observer.update(x)` in dispatcher state `s` -/
def Obs.updateSpec (c : Cfg) (s : State) (id : Nat) (x : SOp) (o : Obs) : Obs × List (Nat × Notif) :=
  match o.kind with
  | .history => ({ o with hist := o.hist ++ [x] }, [])
  | .unscheduled => ({ o with deques := popJob o.deques x.job }, [])
  | .makespanReward =>
    ({ o with curMakespan := max o.curMakespan x.end_,
              rewards := o.rewards ++ [o.curMakespan - max o.curMakespan x.end_] }, [])
  | .idleReward =>
    ({ o with rewards := o.rewards ++ [-(idleGap (s.sched.getD x.machine []).dropLast x)] }, [])
  | .recorder => ({ o with log := o.log ++ [.update x (snapshotSpec c s)] }, [(id, .update x (snapshotSpec c s))])

/-- pure meaning of `observer.reset()` -/
def Obs.resetSpec (c : Cfg) (s : State) (id : Nat) (o : Obs) : Obs × List (Nat × Notif) :=
  match o.kind with
  | .history => ({ o with hist := [] }, [])
  | .unscheduled => ({ o with deques := fullDeques c.I }, [])
  | .makespanReward => ({ o with rewards := [], curMakespan := makespan s }, [])
  | .idleReward => ({ o with rewards := [] }, [])
  | .recorder => ({ o with log := o.log ++ [.reset (snapshotSpec c s)] }, [(id, .reset (snapshotSpec c s))])

theorem Obs.updateSpec_kind (c : Cfg) (s : State) (id : Nat) (x : SOp) (o : Obs) :
    (Obs.updateSpec c s id x o).1.kind = o.kind := by
  cases hk : o.kind <;> simp only [Obs.updateSpec, hk]

theorem Obs.resetSpec_kind (c : Cfg) (s : State) (id : Nat) (o : Obs) : (Obs.resetSpec c s id o).1.kind = o.kind := by
  cases hk : o.kind <;> simp only [Obs.resetSpec, hk]

theorem Obs.construct_kind (c : Cfg) (s : State) (k : ObsKind) (t : Nat) : (Obs.construct c s k t).kind = k := by
  cases k <;> rfl

/-- a call that behaves like the pure `g` on every memo-variant of `s0` -/
def CallOK (c : Cfg) (s0 : State) (f : State → Nat → Obs → Obs × State × List (Nat × Notif))
    (g : Nat → Obs → Obs × List (Nat × Notif)) : Prop :=
  ∀ k id o, CacheOK c (setCache s0 k) →
    (f (setCache s0 k) id o).1 = (g id o).1 ∧ (f (setCache s0 k) id o).2.2 = (g id o).2 ∧
    CacheOK c (f (setCache s0 k) id o).2.1 ∧ ∃ k', (f (setCache s0 k) id o).2.1 = setCache s0 k'

theorem update_callOK (c : Cfg) (s0 : State) (x : SOp) :
    CallOK c s0 (fun s id o => Obs.update c s id x o) (fun id o => Obs.updateSpec c s0 id x o) := by
  intro k id o hok
  cases hk : o.kind <;> simp only [Obs.update, Obs.updateSpec, hk]
  · exact ⟨trivial, trivial, hok, ⟨k, rfl⟩⟩
  · exact ⟨trivial, trivial, hok, ⟨k, rfl⟩⟩
  · exact ⟨trivial, trivial, hok, ⟨k, rfl⟩⟩
  · exact ⟨rfl, trivial, hok, ⟨k, rfl⟩⟩
  · obtain ⟨h1, h2, k', h3⟩ := takeSnapshot_ok c (setCache s0 k) hok
    have hs : snapshotSpec c (setCache s0 k) = snapshotSpec c s0 := by simp [snapshotSpec]
    refine ⟨by rw [h1, hs], by rw [h1, hs], h2, ⟨k', by rw [h3]; rfl⟩⟩

theorem reset_callOK (c : Cfg) (s0 : State) :
    CallOK c s0 (fun s id o => Obs.reset c s id o) (fun id o => Obs.resetSpec c s0 id o) := by
  intro k id o hok
  cases hk : o.kind <;> simp only [Obs.reset, Obs.resetSpec, hk]
  · exact ⟨trivial, trivial, hok, ⟨k, rfl⟩⟩
  · exact ⟨trivial, trivial, hok, ⟨k, rfl⟩⟩
  · exact ⟨rfl, trivial, hok, ⟨k, rfl⟩⟩
  · exact ⟨trivial, trivial, hok, ⟨k, rfl⟩⟩
  · obtain ⟨h1, h2, k', h3⟩ := takeSnapshot_ok c (setCache s0 k) hok
    have hs : snapshotSpec c (setCache s0 k) = snapshotSpec c s0 := by simp [snapshotSpec]
    refine ⟨by rw [h1, hs], by rw [h1, hs], h2, ⟨k', by rw [h3]; rfl⟩⟩

/-- the notification loop without the dispatcher state -/
def notifyPure (g : Nat → Obs → Obs × List (Nat × Notif)) :
    List Nat → List Obs → List (Nat × Notif) → List Obs × List (Nat × Notif)
  | [], heap, tr => (heap, tr)
  | id :: rest, heap, tr =>
    match heap[id]? with
    | none => notifyPure g rest heap tr
    | some o => notifyPure g rest (heap.set id (g id o).1) (tr ++ (g id o).2)

theorem notifyAll_eq_pure {c : Cfg} {s0 : State} {f g} (hfg : CallOK c s0 f g) :
    ∀ (ids : List Nat) (k : Cache) (heap : List Obs) (tr : List (Nat × Notif)), CacheOK c (setCache s0 k) →
      (notifyAll f ids (setCache s0 k) heap tr).2 = notifyPure g ids heap tr ∧
      CacheOK c (notifyAll f ids (setCache s0 k) heap tr).1 ∧
      ∃ k', (notifyAll f ids (setCache s0 k) heap tr).1 = setCache s0 k'
  | [], k, heap, tr, hok => ⟨rfl, hok, ⟨k, rfl⟩⟩
  | id :: rest, k, heap, tr, hok => by
    unfold notifyAll notifyPure
    cases hh : heap[id]? with
    | none => exact notifyAll_eq_pure hfg rest k heap tr hok
    | some o =>
      obtain ⟨h1, h2, h3, k', h4⟩ := hfg k id o hok
      simp only
      rw [h4] at h3 ⊢
      rw [h1, h2]
      exact notifyAll_eq_pure hfg rest k' _ _ h3

theorem notifyPure_length (g) : ∀ (ids : List Nat) (heap : List Obs) (tr), (notifyPure g ids heap tr).1.length = heap.length
  | [], _, _ => rfl
  | id :: rest, heap, tr => by
    unfold notifyPure
    cases heap[id]? with
    | none => exact notifyPure_length g rest heap tr
    | some o => simp only; rw [notifyPure_length g rest]; simp

theorem notifyPure_other (g) : ∀ (ids : List Nat) (heap : List Obs) (tr) (i : Nat), i ∉ ids →
    (notifyPure g ids heap tr).1[i]? = heap[i]?
  | [], _, _, _, _ => rfl
  | id :: rest, heap, tr, i, hi => by
    unfold notifyPure
    have hne : i ≠ id := fun h => hi (by simp [h])
    have hr : i ∉ rest := fun h => hi (by simp [h])
    cases heap[id]? with
    | none => exact notifyPure_other g rest heap tr i hr
    | some o =>
      simp only
      rw [notifyPure_other g rest _ _ i hr, List.getElem?_set_ne (fun h => hne h.symm)]

theorem notifyPure_mem (g) : ∀ (ids : List Nat) (heap : List Obs) (tr) (i : Nat), ids.Nodup → i ∈ ids →
    ∀ o, heap[i]? = some o → (notifyPure g ids heap tr).1[i]? = some (g i o).1
  | [], _, _, _, _, hi, _, _ => by simp at hi
  | id :: rest, heap, tr, i, hnd, hi, o, ho => by
    unfold notifyPure
    rw [List.nodup_cons] at hnd
    by_cases hid : i = id
    · subst hid
      simp only [ho]
      rw [notifyPure_other g rest _ _ i hnd.1]
      have hlt : i < heap.length := (List.getElem?_eq_some_iff.1 ho).1
      simp [hlt]
    · have hir : i ∈ rest := by
        rcases List.mem_cons.1 hi with h | h
        · exact absurd h hid
        · exact h
      cases hh : heap[id]? with
      | none => exact notifyPure_mem g rest heap tr i hnd.2 hir o ho
      | some o' =>
        simp only
        exact notifyPure_mem g rest _ _ i hnd.2 hir o
          (by rw [List.getElem?_set_ne (fun h => hid h.symm)]; exact ho)

theorem flatMap_congr' {α β} {f g : α → List β} : ∀ (l : List α), (∀ a ∈ l, f a = g a) → l.flatMap f = l.flatMap g
  | [], _ => rfl
  | a :: t, h => by
    simp only [List.flatMap_cons]
    rw [h a (by simp), flatMap_congr' t (fun b hb => h b (by simp [hb]))]

theorem notifyPure_trace (g) :
    ∀ (ids : List Nat) (heap : List Obs) (tr), ids.Nodup → (∀ id ∈ ids, id < heap.length) →
    (notifyPure g ids heap tr).2 = tr ++ ids.flatMap fun id => match heap[id]? with
      | some o => (g id o).2 | none => []
  | [], _, tr, _, _ => by simp [notifyPure]
  | id :: rest, heap, tr, hnd, hlt => by
    unfold notifyPure
    rw [List.nodup_cons] at hnd
    have hid := hlt id (by simp)
    have hh : heap[id]? = some heap[id] := List.getElem?_eq_getElem hid
    simp only [hh, List.flatMap_cons]
    rw [notifyPure_trace g rest _ _ hnd.2 (by intro i hi; simpa using hlt i (by simp [hi]))]
    rw [List.append_assoc]
    congr 2
    apply flatMap_congr'
    intro i hi
    have hne : i ≠ id := fun h => hnd.1 (h ▸ hi)
    rw [List.getElem?_set_ne (fun h => hne h.symm)]

/-- **One notification round.**  With a coherent memo the round leaves the dispatcher as it is up to the memo,
calls every listed observer once on its own record, in list order, and touches no other observer. -/
theorem notifyAll_round {c : Cfg} {s : State} {f g} (hfg : CallOK c s f g) (hok : CacheOK c s) {ids : List Nat}
    {heap : List Obs} (hnd : ids.Nodup) (hlt : ∀ id ∈ ids, id < heap.length) (tr : List (Nat × Notif)) :
    (∃ k, (notifyAll f ids s heap tr).1 = setCache s k) ∧ CacheOK c (notifyAll f ids s heap tr).1 ∧
    (notifyAll f ids s heap tr).2.1.length = heap.length ∧
    (∀ i, i ∉ ids → (notifyAll f ids s heap tr).2.1[i]? = heap[i]?) ∧
    (∀ i ∈ ids, ∀ o, heap[i]? = some o → (notifyAll f ids s heap tr).2.1[i]? = some (g i o).1) ∧
    (notifyAll f ids s heap tr).2.2 = tr ++ ids.flatMap fun id => match heap[id]? with
      | some o => (g id o).2 | none => [] := by
  obtain ⟨heq, hok', hk⟩ := notifyAll_eq_pure hfg ids s.cache heap tr hok
  rw [show setCache s s.cache = s from rfl] at heq hok' hk
  rw [heq]
  exact ⟨hk, hok', notifyPure_length _ _ _ _, notifyPure_other _ _ _ _, fun i => notifyPure_mem _ _ _ _ i hnd,
    notifyPure_trace _ _ _ _ hnd hlt⟩

end JS
