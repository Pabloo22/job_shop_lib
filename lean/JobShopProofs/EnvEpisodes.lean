import JobShopProofs.ResetFresh
import JobShopProofs.Properties.C18
/-!
# C12, environment clause — every episode of an environment behaves like its first

`Env.make_is_run`: the world of a freshly made environment is the run of a well-formed constructor list.
`C12_env_reset_fresh`: whatever actions were played, `reset` returns the environment `Env.make` built.
`C12_env_episodes_equal`: hence replaying the same actions after a reset gives identical step outputs.
-/
namespace JS

/-- the constructor event of a feature config -/
def featEv (kf : FKind × Option (List FT)) : FEv := .construct kf.1 kf.2

/-- the constructor events `Env.make` performs, given the ids of the feature observers -/
def envCtors (ec : EnvCfg) (ids : List Nat) : List FEv :=
  ec.feats.map featEv ++
    [.composite (some ids), .residual ec.builder ec.rmMach ec.rmJob, .construct ec.reward none, .construct .history none]

theorem FWorld.run_append (c : Cfg) (a b : List FEv) : FWorld.run c (a ++ b) = b.foldl FWorld.step (FWorld.run c a) :=
  List.foldl_append ..

theorem ctorsOK_append : ∀ (l1 l2 : List FEv) (w : FWorld), CtorsOK w l1 → CtorsOK (l1.foldl FWorld.step w) l2 →
    CtorsOK w (l1 ++ l2)
  | [], _, _, _, h2 => h2
  | e :: t, l2, w, h1, h2 => by
    obtain ⟨a, b, c, d⟩ := h1
    exact ⟨a, b, c, ctorsOK_append t l2 _ d h2⟩

theorem constructFeats_run (feats : List (FKind × Option (List FT))) (w : FWorld) (hf : FeatsOK feats) (w' : FWorld)
    (ids : List Nat) (h : constructFeats w feats = some (w', ids)) :
    w' = (feats.map featEv).foldl FWorld.step w ∧ CtorsOK w (feats.map featEv) := by
  revert hf
  refine constructFeats_induct (P := fun w feats w' _ => FeatsOK feats →
    w' = (feats.map featEv).foldl FWorld.step w ∧ CtorsOK w (feats.map featEv)) (fun _ _ => ⟨rfl, trivial⟩) ?_
    feats w w' ids h
  intro w k fts rest w1 _ w' _ _ hc _ ih hf
  obtain ⟨e2, ok2⟩ := ih (fun kf hkf => hf kf (List.mem_cons_of_mem _ hkf))
  have hstep : w.step (featEv (k, fts)) = w1 := congrArg Prod.fst hc
  simp only [List.map_cons, List.foldl_cons, hstep]
  refine ⟨e2, rfl, ?_, (fun l hl => nomatch hl), hstep ▸ ok2⟩
  show FEv.NodupFts (.construct k fts)
  cases fts with
  | none => trivial
  | some l => exact hf (k, some l) (List.mem_cons_self ..) l rfl

theorem Env.make_is_run {c : Cfg} {ec : EnvCfg} {e : Env} (hf : FeatsOK ec.feats) (h : Env.make c ec = some e) :
    ∃ ctors : List FEv, CtorsOK (FWorld.init c) ctors ∧ e.w = FWorld.run c ctors := by
  obtain ⟨w1, ids, w2, w3, w4, hid, h1, h2, h3, _, h4, h5, _, _⟩ := Env.make_inv h
  obtain ⟨_, e1, g1⟩ := constructFeats_ok ec.feats _ (heapOK_init c) hf w1 ids h1
  obtain ⟨r1, ok1⟩ := constructFeats_run ec.feats _ hf w1 ids h1
  have hc2 : w2.cfg = c := by
    have := (good_constructComposite w1 (some ids)).st.1
    rw [h2] at this
    rw [this, e1.cfg]; rfl
  have s2 : w1.step (.composite (some ids)) = w2 := congrArg Prod.fst h2
  have s3 : w2.step (.residual ec.builder ec.rmMach ec.rmJob) = w3 := by
    show (w2.constructResidual (build ec.builder w2.cfg.I) ec.rmMach ec.rmJob).1 = w3
    rw [hc2, h3]
  have s4 : w3.step (.construct ec.reward none) = w4 := congrArg Prod.fst h4
  have s5 : w4.step (.construct .history none) = e.w := congrArg Prod.fst h5
  refine ⟨envCtors ec ids, ?_, ?_⟩
  · unfold envCtors
    refine ctorsOK_append _ _ _ ok1 ?_
    rw [← r1]
    simp only [CtorsOK, s2, s3, s4, FEv.isCtor, FEv.NodupFts, true_and, and_true]
    refine ⟨?_, (fun l hl => nomatch hl), (fun l hl => nomatch hl), (fun l hl => nomatch hl)⟩
    intro l hl i hi
    cases hl
    obtain ⟨q, hq, _⟩ := g1 i hi
    exact (List.getElem?_eq_some_iff.1 hq).1
  · unfold FWorld.run envCtors
    rw [List.foldl_append, ← r1]
    simp only [List.foldl_cons, List.foldl_nil, s2, s3, s4, s5]

/-- run a list of actions (legal or not) -/
def Env.steps (e : Env) (acts : List (Nat × Int)) : Env := acts.foldl (fun e a => (e.step a.1 a.2).1) e

theorem Env.step_world (e : Env) (job : Nat) (machine : Int) :
    (e.step job machine).1 = e ∨ ∃ j p m, (e.step job machine).1 = { e with w := e.w.step (.disp j p m) } := by
  rcases Env.step_fst e job machine with h | ⟨w', hd, h⟩
  · exact Or.inl h
  · refine Or.inr ⟨job, e.w.s.jobIdx.getD job 0, (if machine == -1 then none else some machine), ?_⟩
    rw [h, show e.w.step (.disp job (e.w.s.jobIdx.getD job 0) (if machine == -1 then none else some machine)) = w' from
      congrArg Prod.fst hd]

theorem Env.apply_world (e : Env) (ev : EnvEv) :
    e.apply ev = e ∨ ∃ x : FEv, x.isCtor = false ∧ e.apply ev = { e with w := e.w.step x } := by
  cases ev with
  | step j m =>
    rcases Env.step_world e j m with h | ⟨j', p, mm, h⟩
    · exact Or.inl h
    · exact Or.inr ⟨.disp j' p mm, rfl, h⟩
  | reset => exact Or.inr ⟨.reset, rfl, rfl⟩

theorem Env.runEvs_world : ∀ (evs : List EnvEv) (e : Env),
    ∃ fevs : List FEv, (∀ x ∈ fevs, x.isCtor = false) ∧ e.runEvs evs = { e with w := fevs.foldl FWorld.step e.w }
  | [], e => ⟨[], (fun _ hx => nomatch hx), rfl⟩
  | ev :: t, e => by
    have hcons : e.runEvs (ev :: t) = (e.apply ev).runEvs t := rfl
    rw [hcons]
    rcases Env.apply_world e ev with h | ⟨x, hx, h⟩
    · rw [h]; exact Env.runEvs_world t e
    · rw [h]
      obtain ⟨fevs, hev, heq⟩ := Env.runEvs_world t { e with w := e.w.step x }
      exact ⟨x :: fevs, List.forall_mem_cons.2 ⟨hx, hev⟩, by rw [heq]; rfl⟩

theorem Env.steps_world (acts : List (Nat × Int)) (e : Env) :
    ∃ evs : List FEv, (∀ x ∈ evs, x.isCtor = false) ∧ e.steps acts = { e with w := evs.foldl FWorld.step e.w } := by
  have : e.steps acts = e.runEvs (acts.map fun a => .step a.1 a.2) := by
    unfold Env.steps Env.runEvs; rw [List.foldl_map]; rfl
  rw [this]
  exact Env.runEvs_world _ e

/-- **every episode starts from the freshly made environment**: whatever actions were played since the constructor,
`reset` returns the environment to exactly the state `Env.make` built (so the same holds after any number of episodes) -/
theorem C12_env_reset_fresh {c : Cfg} {ec : EnvCfg} {e : Env} (hv : Valid c.I) (hf : FeatsOK ec.feats)
    (h : Env.make c ec = some e) (acts : List (Nat × Int)) :
    ((e.steps acts).reset).1 = e := by
  obtain ⟨ctors, hok, hw⟩ := Env.make_is_run hf h
  obtain ⟨evs, hev, heq⟩ := Env.steps_world acts e
  rw [heq]
  show ({ e with w := (evs.foldl FWorld.step e.w).reset } : Env) = e
  have : (evs.foldl FWorld.step e.w).reset = e.w := by
    rw [hw, ← FWorld.run_append]
    exact C12_world c hv ctors evs hok hev
  rw [this]

/-- hence any two episodes replaying the same actions produce identical step outputs -/
theorem C12_env_episodes_equal {c : Cfg} {ec : EnvCfg} {e : Env} (hv : Valid c.I) (hf : FeatsOK ec.feats)
    (h : Env.make c ec = some e) (acts1 acts2 : List (Nat × Int)) (a : Nat × Int) :
    (((e.steps acts1).reset).1.steps acts2).step a.1 a.2 = (e.steps acts2).step a.1 a.2 := by
  rw [C12_env_reset_fresh hv hf h acts1]

end JS
