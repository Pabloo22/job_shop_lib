import JobShopProofs.OwnRecord
import JobShopProofs.Properties.C13
/-!
# C13 on the whole feature world

The environments read their rewards from the reward observers of the FEATURE world (`JobShopModel/Features.lean`, kinds
`makespanReward` and `idleReward`).  `C13_world`: in every reachable feature world (observers constructed on the fresh dispatcher,
then any dispatch requests and resets) the rewards of a subscribed makespan-reward observer add up to minus the current makespan,
those of an idle-time-reward observer to minus the total idle time (`idleTotal`, defined in `Properties/C13.lean`: for every
machine the end of its last operation minus the work done on it); every reward is non-positive and there is exactly one per
accepted dispatch since the last reset.

Route: `own_record_run` (`OwnRecord.lean`) with the per-observer property `RelOK (init c.I)`; a reward observer is `Fresh` after its
construction and after a reset, and its notification appends the reward whose arithmetic is that of `Properties/C13.lean`
(`makespan_dispatch`, `idleOf_append`): `relOK_upd`.  `RelOK base`, sums relative to a state `base`, also serves the reward
observers constructed in the middle of an episode (`LateReward.lean`).
-/
namespace JS

/-- `idleTotal` (of `Properties/C13.lean`) spelled out: for every machine, the end of its last operation minus the work done
on it -/
theorem idleTotal_eq (s : State) :
    idleTotal s = (s.sched.map fun ms => ((ms.getLast?.map SOp.end_).getD 0) - (ms.map (·.dur)).sum).sum := rfl

namespace RewW

def IsRew (k : FKind) : Prop := k = .makespanReward ∨ k = .idleReward

/-- a reward observer right after its construction or reset -/
def Fresh (s : State) (o : FObs) : Prop := o.rewards = [] ∧ (o.kind = .makespanReward → o.curMakespan = makespan s)

/-- what C13 says about a reward observer, relative to the state `base` -/
structure RelOK (base s : State) (o : FObs) : Prop where
  neg : ∀ r ∈ o.rewards, r ≤ 0
  len : o.rewards.length + numScheduled base = numScheduled s
  mksp : o.kind = .makespanReward → o.rewards.sum = makespan base - makespan s ∧ o.curMakespan = makespan s
  idle : o.kind = .idleReward → o.rewards.sum = idleTotal base - idleTotal s

theorem relOK_fresh (s : State) (o : FObs) (h : Fresh s o) : RelOK s s o := by
  obtain ⟨h1, h2⟩ := h
  refine ⟨?_, ?_, ?_, ?_⟩
  · rw [h1]; intro r hr; cases hr
  · rw [h1]; simp
  · intro hk; rw [h1, h2 hk]; simp
  · intro _; rw [h1]; simp

theorem RelOK.append {base s s' : State} {o o' : FObs} {r : Int} (h : RelOK base s o)
    (hn : numScheduled s' = numScheduled s + 1) (hk : o'.kind = o.kind) (hr : o'.rewards = o.rewards ++ [r]) (hr0 : r ≤ 0)
    (hm : o.kind = .makespanReward → r = makespan s - makespan s' ∧ o'.curMakespan = makespan s')
    (hi : o.kind = .idleReward → r = idleTotal s - idleTotal s') : RelOK base s' o' := by
  have hlen := h.len
  refine ⟨fun x hx => ?_, by rw [hr, List.length_append, List.length_singleton]; omega, fun hk' => ?_, fun hk' => ?_⟩
  · rw [hr] at hx
    rcases List.mem_append.1 hx with hx | hx
    · exact h.neg x hx
    · rw [List.mem_singleton.1 hx]; exact hr0
  · obtain ⟨h1, h2⟩ := hm (hk ▸ hk')
    rw [hr, sum_append_singleton, (h.mksp (hk ▸ hk')).1, h1]
    exact ⟨by omega, h2⟩
  · rw [hr, sum_append_singleton, h.idle (hk ▸ hk'), hi (hk ▸ hk')]; omega

theorem relOK_upd {c : Cfg} (hv : Valid c.I) {s s' : State} {j p : Nat} {m : Option Int} {mm : Nat} {op : Op}
    (hi : Inv c s) (hdr : dispatchReq c.I s j p m = .ok s') (hdd : dispatch c.I s j p mm = .ok s')
    (hx : newEntry s j p mm op ∈ s'.sched.flatten) (hp : List FObs) (base : State) (o : FObs) (h : RelOK base s o)
    (hr : IsRew o.kind) : RelOK base s' (updObs c s' (newEntry s j p mm op) hp o) := by
  have hn : numScheduled s' = numScheduled s + 1 := numScheduled_dispatch hi.cinv.wf hdd
  rcases hr with hk | hk
  · have hm := makespan_dispatch hv hi hdr hx rfl rfl
    obtain ⟨_, h2⟩ := h.mksp hk
    refine h.append hn (updObs_kind ..) (r := o.curMakespan - max o.curMakespan (newEntry s j p mm op).end_)
      (by simp only [updObs, hk]) (by omega) (fun _ => ⟨by rw [h2, hm], by simp only [updObs, hk]; rw [h2, hm]⟩)
      (fun hk' => by rw [hk] at hk'; cases hk')
  · obtain ⟨hid, hge⟩ := idle_dispatch hv hi hdr hx rfl rfl
    refine h.append hn (updObs_kind ..)
      (r := -(idleGap (s'.sched.getD (newEntry s j p mm op).machine []).dropLast (newEntry s j p mm op)))
      (by simp only [updObs, hk]; rfl) (by omega) (fun hk' => by rw [hk] at hk'; cases hk') (fun _ => by omega)

theorem fresh_resetOwn {w : FWorld} {o : FObs} (hk : IsRew o.kind) : Fresh w.s (resetOwn w o) := by
  rcases hk with hk | hk
  · exact ⟨by simp only [resetOwn, hk], fun _ => by simp only [resetOwn, hk]⟩
  · exact ⟨by simp only [resetOwn, hk], fun h => by rw [resetOwn_kind, hk] at h; cases h⟩

end RewW

/-- **C13 on the whole feature world.**  In every reachable feature world the rewards of a makespan-reward observer add up to
minus the current makespan (which the observer tracks), those of an idle-time-reward observer to minus the total idle time; every
reward is non-positive; there is exactly one reward per accepted dispatch since the last reset. -/
theorem C13_world (c : Cfg) (hv : Valid c.I) (hF : c.F = none ∨ PosDurI c.I) (w : FWorld) (hw : Reached c w)
    (id : Nat) (hid : id ∈ w.subs) (o : FObs) (ho : w.heap[id]? = some o) :
    (o.kind = .makespanReward → o.rewards.sum = - makespan w.s ∧ o.curMakespan = makespan w.s ∧ (∀ r ∈ o.rewards, r ≤ 0) ∧
        o.rewards.length = numScheduled w.s) ∧
    (o.kind = .idleReward → o.rewards.sum = - idleTotal w.s ∧ (∀ r ∈ o.rewards, r ≤ 0) ∧ o.rewards.length = numScheduled w.s) := by
  have _ := hid
  by_cases hk : RewW.IsRew o.kind
  · have := own_record_run (T := RewW.IsRew) (OK := RewW.RelOK (init c.I)) hv hF
      (fun k h => by rcases h with rfl | rfl <;> rfl) ?_ ?_
      (fun hi hdr hdd hx hp o h hk => RewW.relOK_upd hv hi hdr hdd hx hp _ o h hk) hw id o ho hk
    · have hl := this.len
      rw [numScheduled_init, Nat.add_zero] at hl
      refine ⟨fun h => ?_, fun h => ?_⟩
      · obtain ⟨h1, h2⟩ := this.mksp h
        rw [makespan_init] at h1
        exact ⟨by omega, h2, this.neg, hl⟩
      · have h1 := this.idle h
        rw [idleTotal_init] at h1
        exact ⟨by omega, this.neg, hl⟩
    · intro w o hs hn hk
      cases hn with
      | makespan => exact RewW.relOK_fresh _ _ ⟨rfl, fun _ => congrArg makespan hs⟩
      | idle => exact RewW.relOK_fresh _ _ ⟨rfl, fun h => nomatch h⟩
      | _ => rcases hk with hk | hk <;> cases hk
    · intro w o hs hk
      exact RewW.relOK_fresh _ _ (hs ▸ RewW.fresh_resetOwn hk)
  · exact ⟨fun h => absurd (Or.inl h) hk, fun h => absurd (Or.inr h) hk⟩

/-! non-vacuity: a reachable world with both reward observers between other observers (helpers created lazily), a reset in the
middle of the history, a dispatch that does not extend the makespan and dispatches that leave gaps -/
set_option maxRecDepth 100000 in
example :
    let w := FWorld.run { I := c11Instance }
      ([.construct .isCompleted none, .construct .makespanReward none, .construct .idleReward none,
        .construct .remainingOps none, .construct .makespanReward none] ++
       [.disp 0 0 (some 1), .disp 1 0 none, .reset, .disp 1 0 (some 1), .disp 1 1 none, .disp 0 0 (some 0), .disp 1 2 none,
        .disp 0 1 none, .disp 0 1 none])
    3 ∈ w.subs ∧ 4 ∈ w.subs ∧
    (w.heap[3]?.map fun o => (o.kind, o.rewards, o.curMakespan)) = some (.makespanReward, [-4, -1, -3, 0, -2], 10) ∧
    (w.heap[4]?.map fun o => (o.kind, o.rewards)) = some (.idleReward, [0, -4, 0, -1, -3]) ∧
    makespan w.s = 10 ∧ idleTotal w.s = 8 ∧ numScheduled w.s = 5 := by decide +kernel

end JS
