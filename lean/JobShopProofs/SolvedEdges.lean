import JobShopProofs.GraphEdges
import JobShopProofs.Properties.C16
/-!
# C16 — the solved disjunctive graph has exactly the prescribed edges

`build_solved_disjunctive_graph(schedule)`: the job chains with source and sink (conjunctive), then — for every machine —
one edge between each pair of operations that are consecutive on that machine in the schedule, typed disjunctive.  The
machine edges are added last, so a job-consecutive pair that is also machine-consecutive ends up disjunctive.
-/
namespace JS

/-- the entry of `b` comes right after the entry of `a` on some machine list of the schedule -/
def MachNext (s : State) (a b : OpRef) : Prop :=
  ∃ m pre post x y, s.sched.getD m [] = pre ++ x :: y :: post ∧ (x.job, x.pos) = a ∧ (y.job, y.pos) = b

def SolvedEdgeSpec (I : Instance) (s : State) (u v : Nat) (t : EType) : Prop :=
  (∃ a ∈ allOps I, ∃ b ∈ allOps I, u = opId I a ∧ v = opId I b ∧
      ((MachNext s a b ∧ t = .disjunctive) ∨ (¬ MachNext s a b ∧ JobSucc a b ∧ t = .conjunctive))) ∨
  (∃ a ∈ allOps I, a.2 = 0 ∧ u = numOps I ∧ v = opId I a ∧ t = .conjunctive) ∨
  (∃ a ∈ allOps I, (a.1, a.2 + 1) ∉ allOps I ∧ u = opId I a ∧ v = numOps I + 1 ∧ t = .conjunctive)

theorem mem_zip_tail_iff {α} (l : List α) (x y : α) :
    (x, y) ∈ l.zip l.tail ↔ ∃ pre post, l = pre ++ x :: y :: post := by
  rw [mem_zip_tail_getElem?]
  constructor
  · rintro ⟨p, h1, h2⟩
    obtain ⟨hp1, rfl⟩ := List.getElem?_eq_some_iff.1 h1
    obtain ⟨hp2, rfl⟩ := List.getElem?_eq_some_iff.1 h2
    refine ⟨l.take p, l.drop (p + 2), ?_⟩
    rw [← List.drop_eq_getElem_cons hp2, ← List.drop_eq_getElem_cons hp1, List.take_append_drop]
  · rintro ⟨pre, post, rfl⟩
    exact ⟨pre.length, by simp, by simp⟩

/-- the `add_edge` calls of the machine phase of `buildSolved` -/
def machList (I : Instance) (S : List (List SOp)) : List (Nat × Nat) :=
  S.flatMap fun ms => (ms.zip ms.tail).map fun ab => (opId I (ab.1.job, ab.1.pos), opId I (ab.2.job, ab.2.pos))

theorem buildSolved_fold (I : Instance) (s : State) :
    buildSolved I s = (machList I s.sched).foldl (fun g xy => g.addEdge xy.1 xy.2 .disjunctive)
      (addSourceSink I (addConjunctiveEdges I (opNodesGraph I))) := by
  unfold buildSolved machList
  simp only
  rw [List.foldl_flatMap]
  congr 1
  funext g ms
  rw [List.foldl_map]

theorem getD_mem_of_ne_nil {α} (S : List (List α)) (m : Nat) (h : S.getD m [] ≠ []) : S.getD m [] ∈ S := by
  by_cases hm : m < S.length
  · rw [List.getD_eq_getElem?_getD, List.getElem?_eq_getElem hm]; exact List.getElem_mem hm
  · exact absurd (getD_nil_of_le S m (by omega)) h

theorem mem_machList_iff (I : Instance) (s : State) (u v : Nat) :
    (u, v) ∈ machList I s.sched ↔ ∃ a b, MachNext s a b ∧ u = opId I a ∧ v = opId I b := by
  simp only [machList, List.mem_flatMap, List.mem_map, Prod.mk.injEq]
  constructor
  · rintro ⟨ms, hms, ⟨x, y⟩, hxy, rfl, rfl⟩
    obtain ⟨pre, post, e⟩ := (mem_zip_tail_iff ms x y).1 hxy
    obtain ⟨m, hm, rfl⟩ := List.mem_iff_getElem.1 hms
    refine ⟨_, _, ⟨m, pre, post, x, y, ?_, rfl, rfl⟩, rfl, rfl⟩
    rw [← e]
    simp [List.getD_eq_getElem?_getD, List.getElem?_eq_getElem hm]
  · rintro ⟨a, b, ⟨m, pre, post, x, y, e, rfl, rfl⟩, rfl, rfl⟩
    exact ⟨_, getD_mem_of_ne_nil s.sched m (by rw [e]; simp), (x, y), (mem_zip_tail_iff _ x y).2 ⟨pre, post, e⟩, rfl, rfl⟩

theorem machNext_mem {s : State} {a b : OpRef} (h : MachNext s a b) :
    (∃ x ∈ s.sched.flatten, (x.job, x.pos) = a) ∧ (∃ y ∈ s.sched.flatten, (y.job, y.pos) = b) := by
  obtain ⟨m, pre, post, x, y, e, ha, hb⟩ := h
  exact ⟨⟨x, mem_getD_flatten _ m x (by rw [e]; simp), ha⟩, ⟨y, mem_getD_flatten _ m y (by rw [e]; simp), hb⟩⟩

def SchedOps (I : Instance) (s : State) : Prop := ∀ x ∈ s.sched.flatten, (x.job, x.pos) ∈ allOps I

theorem schedOps_of_feasible {I : Instance} {s : State} (hf : Feasible I s.sched) : SchedOps I s := by
  intro x hx
  obtain ⟨_, hox, _⟩ := hf.isOp x hx
  exact mem_allOps_of_getOp hox

theorem machNext_allOps {I : Instance} {s : State} (hf : SchedOps I s) {a b : OpRef} (h : MachNext s a b) :
    a ∈ allOps I ∧ b ∈ allOps I := by
  obtain ⟨⟨x, hx, rfl⟩, ⟨y, hy, rfl⟩⟩ := machNext_mem h
  exact ⟨hf x hx, hf y hy⟩

/-- an operation is never its own machine successor: each operation is scheduled once -/
theorem machNext_irrefl {I : Instance} {s : State} (hf : Feasible I s.sched) (a : OpRef) : ¬ MachNext s a a := by
  rintro ⟨m, pre, post, x, y, e, ha, hb⟩
  have hsub : List.Sublist (s.sched.getD m []) s.sched.flatten :=
    List.sublist_flatten_of_mem (getD_mem_of_ne_nil _ m (by rw [e]; simp))
  have hnd := (hsub.map (fun x : SOp => (x.job, x.pos))).nodup hf.once
  rw [e] at hnd
  simp only [List.map_append, List.map_cons] at hnd
  have := (List.nodup_append.1 hnd).2.1
  rw [List.nodup_cons] at this
  exact this.1 (by rw [ha, ← hb]; simp)

theorem stage_chains (I : Instance) :
    Stage (addSourceSink I (addConjunctiveEdges I (opNodesGraph I)))
      ((List.range (numOps I)).map .operation ++ [.source, .sink])
      (fun u v t => ((u, v) ∈ conjList I ∨ (u, v) ∈ ssList I (numOps I)) ∧ t = .conjunctive) := by
  apply stage_congr (stage_conj_ss I (stage_opNodes I))
  intro u v t
  by_cases hs : (u, v) ∈ ssList I (numOps I) <;> simp [hs]

theorem stage_solved (I : Instance) (s : State) (hf : SchedOps I s) :
    Stage (buildSolved I s) ((List.range (numOps I)).map .operation ++ [.source, .sink]) (SolvedEdgeSpec I s) := by
  have hnot : ∀ x y, (x, y) ∈ machList I s.sched → x < numOps I ∧ y < numOps I := by
    intro x y hxy
    obtain ⟨a, b, hab, rfl, rfl⟩ := (mem_machList_iff I s x y).1 hxy
    obtain ⟨ha, hb⟩ := machNext_allOps hf hab
    exact ⟨opId_lt ha, opId_lt hb⟩
  have h := stage_fold .disjunctive (machList I s.sched) (stage_chains I) (fun x y hxy => by
    have := hnot x y hxy
    simp only [List.length_append, length_opsL, List.length_cons, List.length_nil]
    omega)
  rw [← buildSolved_fold] at h
  apply stage_congr h
  intro u v t
  unfold SolvedEdgeSpec
  constructor
  · rintro (⟨⟨hc | hs, rfl⟩, hnm⟩ | ⟨hm, rfl⟩)
    · obtain ⟨a, ha, b, hb, hjs, rfl, rfl⟩ := (mem_conjList I u v).1 hc
      exact Or.inl ⟨a, ha, b, hb, rfl, rfl,
        Or.inr ⟨fun hmn => hnm ((mem_machList_iff I s _ _).2 ⟨a, b, hmn, rfl, rfl⟩), hjs, rfl⟩⟩
    · rcases (mem_ssList I _ u v).1 hs with ⟨a, ha, h0, rfl, rfl⟩ | ⟨a, ha, hl, rfl, rfl⟩
      · exact Or.inr (Or.inl ⟨a, ha, h0, rfl, rfl, rfl⟩)
      · exact Or.inr (Or.inr ⟨a, ha, hl, rfl, rfl, rfl⟩)
    · obtain ⟨a, b, hab, rfl, rfl⟩ := (mem_machList_iff I s u v).1 hm
      obtain ⟨ha, hb⟩ := machNext_allOps hf hab
      exact Or.inl ⟨a, ha, b, hb, rfl, rfl, Or.inl ⟨hab, rfl⟩⟩
  · rintro (⟨a, ha, b, hb, rfl, rfl, (⟨hmn, rfl⟩ | ⟨hnmn, hjs, rfl⟩)⟩ | ⟨a, ha, h0, rfl, rfl, rfl⟩ |
      ⟨a, ha, hl, rfl, rfl, rfl⟩)
    · exact Or.inr ⟨(mem_machList_iff I s _ _).2 ⟨a, b, hmn, rfl, rfl⟩, rfl⟩
    · refine Or.inl ⟨⟨Or.inl ((mem_conjList I _ _).2 ⟨a, ha, b, hb, hjs, rfl, rfl⟩), rfl⟩, ?_⟩
      intro hm
      obtain ⟨a', b', hab', e1, e2⟩ := (mem_machList_iff I s _ _).1 hm
      obtain ⟨ha', hb'⟩ := machNext_allOps hf hab'
      obtain rfl := opId_inj ha ha' e1
      obtain rfl := opId_inj hb hb' e2
      exact hnmn hab'
    · exact Or.inl ⟨⟨Or.inr ((mem_ssList I _ _ _).2 (Or.inl ⟨a, ha, h0, rfl, rfl⟩)), rfl⟩,
        fun hm => Nat.lt_irrefl _ (hnot _ _ hm).1⟩
    · exact Or.inl ⟨⟨Or.inr ((mem_ssList I _ _ _).2 (Or.inr ⟨a, ha, hl, rfl, rfl⟩)), rfl⟩,
        fun hm => Nat.not_succ_le_self _ (Nat.le_of_lt (hnot _ _ hm).2)⟩

theorem solved_edges_of_schedOps (I : Instance) (s : State) (hf : SchedOps I s) (u v : Nat) (t : EType) :
    (u, v, t) ∈ (buildSolved I s).edges ↔ SolvedEdgeSpec I s u v t :=
  stage_edges (stage_solved I s hf) u v t

/-- **C16 (solved graph: exactly the prescribed edges, correctly typed).**  Nodes: operations (node id = operation id),
then source `numOps I` and sink `numOps I + 1`.  Between two operations `a`, `b` there is an edge `opId a → opId b` iff
`b` comes right after `a` on some machine of the schedule (then the edge is disjunctive) or — when that is not the case —
`b` is the job successor of `a` (conjunctive).  The source points (conjunctive) to the first operation of every non-empty
job, the last operation of every non-empty job points (conjunctive) to the sink; nothing else. -/
theorem C16_solved_edges (c : Cfg) (hv : Valid c.I) (evs : List Ev) (u v : Nat) (t : EType) :
    (u, v, t) ∈ (buildSolved c.I (run c evs)).edges ↔ SolvedEdgeSpec c.I (run c evs) u v t :=
  solved_edges_of_schedOps c.I (run c evs) (schedOps_of_feasible (C01_feasible c hv evs)) u v t

/-- **C16 (solved graph: nodes).** Operations in id order, then source and sink — for every schedule. -/
theorem C16_solved_nodes (I : Instance) (s : State) :
    (buildSolved I s).nodes = (List.range (numOps I)).map .operation ++ [.source, .sink] := by
  rw [buildSolved_fold, foldl_addEdge_nodes]
  exact (stage_chains I).nodes

/-- the solved graph of a reachable schedule has no self-loop -/
theorem C16_solved_no_loop (c : Cfg) (hv : Valid c.I) (evs : List Ev) (u : Nat) (t : EType) :
    (u, u, t) ∉ (buildSolved c.I (run c evs)).edges := by
  have hf := C01_feasible c hv evs
  rw [C16_solved_edges c hv evs]
  rintro (⟨a, ha, b, hb, e1, e2, h⟩ | ⟨a, ha, _, e1, e2, _⟩ | ⟨a, ha, _, e1, e2, _⟩)
  · obtain rfl := opId_inj ha hb (e1.symm.trans e2)
    rcases h with ⟨hmn, _⟩ | ⟨_, hjs, _⟩
    · exact machNext_irrefl hf a hmn
    · exact jobSucc_ne hjs rfl
  · have := opId_lt ha; omega
  · have := opId_lt ha; omega

/-- every ordered pair of nodes carries at most one edge, with one type -/
theorem C16_solved_edges_nodup (c : Cfg) (hv : Valid c.I) (evs : List Ev) :
    ((buildSolved c.I (run c evs)).edges.map fun e => (e.1, e.2.1)).Nodup :=
  stage_edges_nodup (stage_solved c.I (run c evs) (schedOps_of_feasible (C01_feasible c hv evs)))

end JS
