import JobShopProofs.EnvReward
import JobShopProofs.Properties.C02
import JobShopProofs.Properties.C06
/-!
# Observers are transparent to the dispatcher

Whatever observers are constructed, whenever, and whatever they do in their callbacks (feature observers, composite, residual
graph updater, reward and history observers rewrite each other through the heap of the feature world), the dispatcher state of the
feature world is exactly the state the plain dispatcher reaches on the dispatch requests and resets of the same history.  Hence every
theorem about `run c evs` (C01 feasibility, C02 tracking/replay, C05 query answers, C06 monotone time, C07/C08 filters) holds with
observers attached, and every query answer in a feature world is the answer of the observer-free dispatcher.

The corresponding part of the correspondence check: the C05/C06/C08 slices run one scenario in three with observers subscribed
(`observers_lines`), the C10 slice asks the queries from inside observer callbacks.
-/
namespace JS

/-- the dispatcher's share of a feature-world event -/
def FEv.toEv? : FEv → Option Ev
  | .disp j p m => some (.disp j p m)
  | .reset => some .reset
  | _ => none

theorem FWorld.dispatch_s (w : FWorld) (j p : Nat) (m : Option Int) :
    (w.dispatch j p m).1.cfg = w.cfg ∧ (w.dispatch j p m).1.s = (stepEv w.cfg w.s (.disp j p m)).1 := by
  refine ⟨(dispatch_shell w j p m).2.2, ?_⟩
  cases hd : dispatchReq w.cfg.I w.s j p m with
  | error e => simp only [FWorld.dispatch, stepEv, hd]
  | ok s' =>
    simp only [FWorld.dispatch, stepEv, hd]
    cases (s'.sched.flatten.find? fun x => x.job == j && x.pos == p) with
    | none => rfl
    | some x => exact (good_foldl _ (fun w id => good_callUpdate w x id) w.subs { w with s := s' }).st.2

theorem FWorld.step_s (w : FWorld) (ev : FEv) :
    (w.step ev).cfg = w.cfg ∧
    (w.step ev).s = match ev.toEv? with | some e => (stepEv w.cfg w.s e).1 | none => w.s := by
  have ctor : ∀ e, (∀ j p m, e ≠ .disp j p m) → e ≠ .reset → (w.step e).cfg = w.cfg ∧ (w.step e).s = w.s :=
    fun e hd hr => ⟨(step_ctor w e hd hr).1, (step_ctor w e hd hr).2.1⟩
  cases ev with
  | disp j p m => exact FWorld.dispatch_s w j p m
  | reset => exact (good_reset w).st
  | construct k fts => exact ctor (.construct k fts) nofun nofun
  | composite parts => exact ctor (.composite parts) nofun nofun
  | residual b rm rj => exact ctor (.residual b rm rj) nofun nofun

theorem FWorld.foldl_step_s (c : Cfg) (evs : List FEv) (w : FWorld) (hc : w.cfg = c) :
    (evs.foldl FWorld.step w).cfg = c ∧ (evs.foldl FWorld.step w).s = runEvs c w.s (evs.filterMap FEv.toEv?) := by
  induction evs generalizing w with
  | nil => exact ⟨hc, rfl⟩
  | cons ev t ih =>
    simp only [List.foldl_cons]
    obtain ⟨h1, h2⟩ := FWorld.step_s w ev
    obtain ⟨i1, i2⟩ := ih (w.step ev) (h1.trans hc)
    refine ⟨i1, ?_⟩
    rw [i2, h2]
    cases he : ev.toEv? with
    | none => simp [he]
    | some e => simp [he, runEvs, hc]

/-- **Observers are transparent.**  After any history of observer constructions, dispatch requests (accepted or rejected) and
resets, the dispatcher state of the feature world is the state of the plain dispatcher after the requests and resets alone. -/
theorem observers_transparent (c : Cfg) (evs : List FEv) :
    (FWorld.run c evs).cfg = c ∧ (FWorld.run c evs).s = run c (evs.filterMap FEv.toEv?) := by
  unfold FWorld.run run
  exact FWorld.foldl_step_s c evs (FWorld.init c) rfl

/-- every query a user, a rule, a filter or an observer puts to the dispatcher of a feature world gets the answer the
observer-free dispatcher gives after the same requests and resets (C05 with observers attached) -/
theorem C05_world_answers (c : Cfg) (evs : List FEv) (q : Query) :
    (ask (FWorld.run c evs).cfg (FWorld.run c evs).s q).1 = (ask c (run c (evs.filterMap FEv.toEv?)) q).1 := by
  obtain ⟨h1, h2⟩ := observers_transparent c evs
  rw [h1, h2]

/-- constructing observers at any point of a history changes nothing the dispatcher shows: two histories with the same requests
and resets, but different observers created at different moments, end in the same dispatcher state -/
theorem C10_observers_do_not_disturb (c : Cfg) (evs evs' : List FEv)
    (h : evs.filterMap FEv.toEv? = evs'.filterMap FEv.toEv?) :
    (FWorld.run c evs).s = (FWorld.run c evs').s := by
  rw [(observers_transparent c evs).2, (observers_transparent c evs').2, h]

/-- C01 with observers attached: the schedule of every feature world is feasible -/
theorem C01_world_feasible (c : Cfg) (hv : Valid c.I) (evs : List FEv) : Feasible c.I (FWorld.run c evs).s.sched := by
  rw [(observers_transparent c evs).2]
  exact C01_feasible c hv _

/-- C02 with observers attached: the tracking vectors are what the schedule implies, whatever the observers did -/
theorem C02_world_tracking (c : Cfg) (hv : Valid c.I) (evs : List FEv) :
    let s := (FWorld.run c evs).s
    (∀ m, s.machNext.getD m 0 = lastEndOn s.sched m) ∧
    (∀ j, s.jobIdx.getD j 0 = (s.sched.flatten.filter fun x => x.job == j).length) ∧
    (∀ j, s.jobNext.getD j 0 = predEnd s.sched j (s.jobIdx.getD j 0)) ∧
    numScheduled s = s.sched.flatten.length := by
  intro s
  have h : s = run c (evs.filterMap FEv.toEv?) := (observers_transparent c evs).2
  obtain ⟨h1, h2, h3, h4, _⟩ := C02_tracking c hv (evs.filterMap FEv.toEv?)
  rw [h]
  exact ⟨h1, h2, h3, h4⟩

/-- C06 with observers attached: the clock of a feature world never goes back over a dispatch request -/
theorem C06_world_now_mono (c : Cfg) (hv : Valid c.I) (hF : c.F = none ∨ PosDurI c.I) (evs : List FEv)
    (j p : Nat) (m : Option Int) :
    currentTimePure c (FWorld.run c evs).s ≤ currentTimePure c (FWorld.run c (evs ++ [.disp j p m])).s := by
  have h1 := (observers_transparent c evs).2
  have h2 := (observers_transparent c (evs ++ [FEv.disp j p m])).2
  have : (evs ++ [FEv.disp j p m]).filterMap FEv.toEv? = evs.filterMap FEv.toEv? ++ [Ev.disp j p m] := by
    simp [List.filterMap_append, FEv.toEv?]
  rw [h1, h2, this]
  exact C06_now_mono c hv hF _ j p m

/-! non-vacuity: observers of every family created before, between and after dispatches and a reset -/
example :
    let evs : List FEv := [.construct .isReady none, .disp 0 0 (some 1), .construct .earliestStart none, .residual .agentTask true true,
      .disp 1 0 none, .composite none, .reset, .construct .makespanReward none, .disp 1 0 (some 1), .disp 5 0 none]
    evs.filterMap FEv.toEv? = [.disp 0 0 (some 1), .disp 1 0 none, .reset, .disp 1 0 (some 1), .disp 5 0 none] := by decide +kernel

end JS
