import JobShopProofs.FeatureSpecs
import JobShopProofs.FeatureShape
/-!
# IsCompletedObserver and IsScheduledObserver (machine / job level) against their specifications

One step / initialisation at a time: the operation flags of `IsCompletedObserver` (`complOpsSpec`), its job flags and
job counters (`complJobsSpec`, `remJobsSpec`), and the ongoing-operation counters of `IsScheduledObserver`
(`ongoingMachSpec`, `ongoingJobsSpec`).
-/
namespace JS

theorem getD_eq_getElem' {α} (l : List α) (d : α) {k : Nat} (h : k < l.length) : l.getD k d = l[k] :=
  (List.getElem_eq_getD d).symm

theorem FeatM.ext_getD_int {l₁ l₂ : List Int} {n : Nat} (h₁ : l₁.length = n) (h₂ : l₂.length = n)
    (h : ∀ k, k < n → l₁.getD k 0 = l₂.getD k 0) : l₁ = l₂ := by
  apply List.ext_getElem (h₁.trans h₂.symm)
  intro k hk1 hk2
  rw [← getD_eq_getElem' _ 0 hk1, ← getD_eq_getElem' _ 0 hk2]
  exact h k (h₁ ▸ hk1)

theorem FeatM.getD_zeros (n k : Nat) : (zeros n).getD k 0 = 0 := getD_replicate_self n k 0

theorem map_range_eq_zeros {n : Nat} {f : Nat → Int} (h : ∀ k, k < n → f k = 0) : (List.range n).map f = zeros n := by
  unfold zeros
  rw [List.eq_replicate_iff]
  refine ⟨by rw [List.length_map, List.length_range], fun b hb => ?_⟩
  obtain ⟨k, hk, rfl⟩ := List.mem_map.1 hb
  exact h k (List.mem_range.1 hk)

theorem foldl_setAt_idx {α} (f : α → Nat) (v : Nat → Int) (rs : List α) (col : List Int) (k : Nat) :
    ((rs.foldl (fun col r => setAt col (f r) (v (f r))) col).getD k 0 =
      if (∃ r ∈ rs, f r = k) ∧ k < col.length then v k else col.getD k 0) ∧
    (rs.foldl (fun col r => setAt col (f r) (v (f r))) col).length = col.length := by
  have hlen := foldl_length (fun col r => setAt col (f r) (v (f r))) (fun l _ => setAt_length l _ _) rs col
  refine ⟨?_, hlen⟩
  by_cases hk : k < col.length
  · by_cases he : ∃ r ∈ rs, f r = k
    · rw [if_pos ⟨he, hk⟩]
      exact foldl_setAt_getD f (fun r => v (f r)) k (v k) rs col (fun a _ h => by rw [h]) (Or.inl he) hk
    · rw [if_neg (fun h => he h.1)]
      exact foldl_setAt_getD f _ k _ rs col (fun a ha h => absurd ⟨a, ha, h⟩ he) (Or.inr rfl) hk
  · have hout : ∀ l : List Int, l.length = col.length → l.getD k 0 = 0 := fun l hl => by
      rw [List.getD_eq_getElem?_getD, List.getElem?_eq_none (by omega)]
      rfl
    rw [if_neg (fun h => hk h.2), hout _ hlen, hout _ rfl]

theorem foldl_setAt_one {α} (f : α → Nat) (rs : List α) (col : List Int) (k : Nat) :
    ((rs.foldl (fun col r => setAt col (f r) 1) col).getD k 0 =
      if (∃ r ∈ rs, f r = k) ∧ k < col.length then 1 else col.getD k 0) ∧
    (rs.foldl (fun col r => setAt col (f r) 1) col).length = col.length :=
  foldl_setAt_idx f (fun _ => 1) rs col k

theorem getD_addAt (l : List Int) (i k : Nat) (v : Int) (hk : k < l.length) :
    (addAt l i v).getD k 0 = l.getD k 0 + (if k = i then v else 0) := by
  unfold addAt
  by_cases h : k = i
  · subst h
    exact getD_modify_add l k k v hk
  · simp only [h, ↓reduceIte, Int.add_zero, List.getD_eq_getElem?_getD, List.getElem?_modify]
    have : ¬ i = k := fun e => h e.symm
    simp [this]

theorem foldl_addAt_count {α} (f : α → Nat) : ∀ (l : List α) (col : List Int),
    (l.foldl (fun col y => addAt col (f y) 1) col).length = col.length ∧
    ∀ k, k < col.length → (l.foldl (fun col y => addAt col (f y) 1) col).getD k 0 =
      col.getD k 0 + ((l.filter fun y => f y == k).length : Int)
  | [], col => ⟨rfl, fun k _ => by simp⟩
  | y :: t, col => by
    obtain ⟨h1, h2⟩ := foldl_addAt_count f t (addAt col (f y) 1)
    simp only [List.foldl_cons]
    refine ⟨by rw [h1, addAt_length], fun k hk => ?_⟩
    rw [h2 k (by rw [addAt_length]; exact hk), getD_addAt _ _ _ _ hk, List.filter_cons]
    by_cases hy : f y = k
    · subst hy
      simp only [↓reduceIte, beq_self_eq_true, List.length_cons]
      omega
    · have h1 : ¬ k = f y := fun e => hy e.symm
      have h2 : (f y == k) = false := by simpa using hy
      simp only [h1, h2, ↓reduceIte, Bool.false_eq_true]
      omega

theorem foldl_addAt_zeros {α} (f : α → Nat) (l : List α) (n : Nat) :
    l.foldl (fun col y => addAt col (f y) 1) (zeros n) =
      (List.range n).map fun k => ((l.filter fun y => f y == k).length : Int) := by
  obtain ⟨h1, h2⟩ := foldl_addAt_count f l (zeros n)
  apply FeatM.ext_getD_int (h1.trans (zeros_length n)) (by rw [List.length_map, List.length_range])
  intro k hk
  rw [h2 k (by rw [zeros_length]; exact hk), FeatM.getD_zeros, getD_map_range _ _ _ _ hk, Int.zero_add]

theorem wf_with_rem {o : FObs} (h : o.WF) (rj rm : List Int) : ({ o with remJob := rj, remMach := rm } : FObs).WF :=
  ⟨h.keys, h.nodup⟩
theorem col_with_rem (o : FObs) (rj rm : List Int) (ft : FT) :
    ({ o with remJob := rj, remMach := rm } : FObs).col ft = o.col ft := rfl

theorem icOps_facts (c : Cfg) (s : State) (o : FObs) (hw : o.WF) :
    (icOps c s o).WF ∧ (icOps c s o).fts = o.fts ∧ (icOps c s o).kind = o.kind ∧ (icOps c s o).remJob = o.remJob ∧
    (icOps c s o).remMach = o.remMach ∧ ∀ ft, ft ≠ .operations → (icOps c s o).col ft = o.col ft := by
  unfold icOps
  split
  · exact ⟨hw.setCol _ _, rfl, rfl, rfl, rfl, fun ft h => col_setCol_other _ _ _ _ h⟩
  · exact ⟨hw, rfl, rfl, rfl, rfl, fun _ _ => rfl⟩

theorem icOps_col (c : Cfg) (s : State) (o : FObs) (hw : o.WF) (hft : FT.operations ∈ o.fts) :
    (icOps c s o).col .operations =
      (completedPure c s).foldl (fun col r => setAt col (opId c.I r) 1) (o.col .operations) :=
  (ifHas_setCol hw .operations _).2.2.1 hft

theorem icMach_facts (ms : List Nat) (o : FObs) (hw : o.WF) :
    (icMach ms o).WF ∧ (icMach ms o).fts = o.fts ∧ (icMach ms o).kind = o.kind ∧ (icMach ms o).remJob = o.remJob ∧
    ∀ ft, ft ≠ .machines → (icMach ms o).col ft = o.col ft := by
  unfold icMach
  split
  · refine ⟨wf_with_rem (hw.setCol _ _) _ _, rfl, rfl, rfl, fun ft h => ?_⟩
    dsimp only
    rw [col_with_rem]
    exact col_setCol_other _ _ _ _ h
  · exact ⟨hw, rfl, rfl, rfl, fun _ _ => rfl⟩

theorem icJobs_facts (x : SOp) (o : FObs) (hw : o.WF) :
    (icJobs x o).WF ∧ (icJobs x o).fts = o.fts ∧ (icJobs x o).kind = o.kind ∧ (icJobs x o).remMach = o.remMach ∧
    ∀ ft, ft ≠ .jobs → (icJobs x o).col ft = o.col ft := by
  unfold icJobs
  split
  · refine ⟨wf_with_rem (hw.setCol _ _) _ _, rfl, rfl, rfl, fun ft h => ?_⟩
    dsimp only
    rw [col_with_rem]
    exact col_setCol_other _ _ _ _ h
  · exact ⟨hw, rfl, rfl, rfl, fun _ _ => rfl⟩

theorem icJobs_jobs (x : SOp) (o : FObs) (hw : o.WF) (hft : FT.jobs ∈ o.fts) :
    (icJobs x o).remJob = addAt o.remJob x.job (-1) ∧
    (icJobs x o).col .jobs =
      setAt (o.col .jobs) x.job (if (addAt o.remJob x.job (-1)).getD x.job 0 == 0 then 1 else 0) := by
  unfold icJobs
  rw [if_pos (has_iff.2 hft)]
  refine ⟨rfl, ?_⟩
  dsimp only
  rw [col_with_rem]
  exact col_setCol_same o .jobs _ (hw.has_col hft)

theorem isCompletedUpdate_stages (c : Cfg) (s : State) (x : SOp) (o : FObs) :
    ∃ ms, isCompletedUpdate c s x o = icJobs x (icMach ms (icOps c s o)) := ⟨_, isCompletedUpdate_eq c s x o⟩

theorem isCompletedUpdate_wf (c : Cfg) (s : State) (x : SOp) (o : FObs) (hw : o.WF) :
    (isCompletedUpdate c s x o).WF ∧ (isCompletedUpdate c s x o).fts = o.fts ∧
    (isCompletedUpdate c s x o).kind = o.kind := by
  obtain ⟨ms, hms⟩ := isCompletedUpdate_stages c s x o
  rw [hms]
  obtain ⟨a1, a2, a3, _, _⟩ := icOps_facts c s o hw
  obtain ⟨b1, b2, b3, _, _⟩ := icMach_facts ms (icOps c s o) a1
  obtain ⟨c1, c2, c3, _⟩ := icJobs_facts x _ b1
  exact ⟨c1, c2.trans (b2.trans a2), c3.trans (b3.trans a3)⟩

theorem mem_completed_allOps {c : Cfg} {s : State} {r : OpRef} (h : r ∈ completedPure c s) : r ∈ allOps c.I := by
  unfold completedPure at h
  exact ((mem_sortRefs _ _ _).1 h).1

theorem complOps_fold (c : Cfg) (s s' : State)
    (hmono : ∀ r, r ∈ completedPure c s → r ∈ completedPure c s') :
    (completedPure c s').foldl (fun col r => setAt col (opId c.I r) 1) (complOpsSpec c s) = complOpsSpec c s' := by
  apply List.ext_getElem
  · rw [(foldl_setAt_one _ _ _ 0).2]; simp [complOpsSpec]
  · intro k h1 h2
    have hk : k < (allOps c.I).length := by simpa [complOpsSpec] using h2
    have hks : k < (complOpsSpec c s).length := by simpa [complOpsSpec] using hk
    rw [← getD_eq_getElem' _ 0 h1, (foldl_setAt_one _ _ _ k).1, getD_eq_getElem' _ 0 hks]
    have hr0 : (allOps c.I)[k] ∈ allOps c.I := List.getElem_mem hk
    have hid := opId_getElem_allOps hk
    have hiff : (∃ r ∈ completedPure c s', opId c.I r = k) ↔ (allOps c.I)[k] ∈ completedPure c s' := by
      constructor
      · rintro ⟨r, hr, he⟩
        have := opId_inj (mem_completed_allOps hr) hr0 (he.trans hid.symm)
        rw [← this]; exact hr
      · intro h; exact ⟨_, h, hid⟩
    simp only [complOpsSpec, List.getElem_map, List.contains_iff_mem]
    generalize (allOps c.I)[k] = r0 at hiff
    by_cases h' : r0 ∈ completedPure c s'
    · rw [if_pos ⟨hiff.2 h', by simpa using hk⟩, if_pos h']
    · rw [if_neg (fun h => h' (hiff.1 h.1)), if_neg h', if_neg (fun h => h' (hmono _ h))]

theorem isCompletedUpdate_ops (c : Cfg) (s s' : State) (x : SOp) (o : FObs) (hw : o.WF) (hft : FT.operations ∈ o.fts)
    (hmono : ∀ r, r ∈ completedPure c s → r ∈ completedPure c s')
    (hspec : o.col .operations = complOpsSpec c s) :
    (isCompletedUpdate c s' x o).col .operations = complOpsSpec c s' := by
  obtain ⟨ms, hms⟩ := isCompletedUpdate_stages c s' x o
  rw [hms]
  obtain ⟨a1, _, _, _, _⟩ := icOps_facts c s' o hw
  obtain ⟨b1, _, _, _, b5⟩ := icMach_facts ms (icOps c s' o) a1
  obtain ⟨_, _, _, _, c4⟩ := icJobs_facts x _ b1
  rw [c4 _ (by decide), b5 _ (by decide), icOps_col c s' o hw hft, hspec, complOps_fold c s s' hmono]

theorem getD_addAt_other (l : List Int) (j k : Nat) (v : Int) (h : j ≠ k) : (addAt l j v).getD k 0 = l.getD k 0 := by
  simp only [addAt, List.getD_eq_getElem?_getD, List.getElem?_modify, h, ↓reduceIte]
  cases l[k]? <;> rfl

theorem complJobs_step (I : Instance) (s s' : State) (j : Nat)
    (hrem : remJobsSpec I s' = addAt (remJobsSpec I s) j (-1)) (hlen : (I.getD j []).length ≠ 0) :
    setAt (complJobsSpec I s) j (if (remJobsSpec I s').getD j 0 == 0 then 1 else 0) = complJobsSpec I s' := by
  apply List.ext_getElem
  · simp [setAt, complJobsSpec]
  · intro k h1 h2
    have hk : k < I.length := by simpa [complJobsSpec] using h2
    simp only [setAt, List.getElem_set]
    by_cases hjk : j = k
    · subst hjk
      simp only [↓reduceIte, complJobsSpec, List.getElem_map, List.getElem_range, ne_eq, hlen, not_false_eq_true,
        and_true, beq_iff_eq]
    · simp only [hjk, ↓reduceIte, complJobsSpec, List.getElem_map, List.getElem_range]
      rw [hrem, getD_addAt_other _ _ _ _ hjk]

theorem isCompletedUpdate_jobs (c : Cfg) {s s' : State} {j p m : Nat} {op : Op} (hwf : WF c.I s)
    (hd : DispSpec c.I s s' j p m op) (o : FObs) (hw : o.WF) (hft : FT.jobs ∈ o.fts)
    (hrem : o.remJob = remJobsSpec c.I s) (hspec : o.col .jobs = complJobsSpec c.I s) :
    (isCompletedUpdate c s' (newEntry s j p m op) o).remJob = remJobsSpec c.I s' ∧
    (isCompletedUpdate c s' (newEntry s j p m op) o).col .jobs = complJobsSpec c.I s' := by
  obtain ⟨ms, hms⟩ := isCompletedUpdate_stages c s' (newEntry s j p m op) o
  rw [hms]
  obtain ⟨a1, a2, _, a4, _, a5⟩ := icOps_facts c s' o hw
  obtain ⟨b1, b2, _, b4, b5⟩ := icMach_facts ms (icOps c s' o) a1
  obtain ⟨e1, e2⟩ := icJobs_jobs (newEntry s j p m op) _ b1 (by rw [b2, a2]; exact hft)
  have hj : (newEntry s j p m op).job = j := rfl
  have hstep := remJobsSpec_dispatch hwf hd
  have hlen : (c.I.getD j []).length ≠ 0 := by
    have : p < (c.I.getD j []).length := getD_length_of_getOp.1 (by simp [hd.hop])
    omega
  rw [e1, e2, hj, b4, a4, b5 _ (by decide), a5 _ (by decide), hrem, hspec, ← hstep]
  exact ⟨rfl, complJobs_step c.I s s' j hstep hlen⟩

theorem completed_init (c : Cfg) : completedPure c (init c.I) = [] := by
  apply List.eq_nil_iff_forall_not_mem.2
  intro r hr
  unfold completedPure at hr
  have h1 := ((mem_sortRefs _ _ _).1 hr).2
  have h2 := (List.mem_filter.1 h1).1
  have h3 := ((mem_scheduledPure _ _ _).1 h2).2
  rw [init_jobIdx_getD] at h3
  omega

theorem ongoing_init (c : Cfg) : ongoingPure c (init c.I) = [] := by
  apply List.eq_nil_iff_forall_not_mem.2
  intro y hy
  unfold ongoingPure ongoingAt at hy
  obtain ⟨ms, hms, hy'⟩ := List.mem_flatMap.1 hy
  have : ms = [] := by
    simp only [init] at hms
    exact (List.mem_replicate.1 hms).2
  subst this
  simp at hy'

theorem remJobsSpec_init_getD (I : Instance) (j : Nat) (hj : j < I.length) :
    (remJobsSpec I (init I)).getD j 0 = ((I.getD j []).length : Int) := by
  unfold remJobsSpec
  rw [getD_map_range _ _ _ _ hj, filter_unscheduled_job, if_pos hj, unschedJob, init_jobIdx_getD, List.drop_zero,
    List.length_map, List.length_range]

theorem complSpecs_init (c : Cfg) :
    complOpsSpec c (init c.I) = zeros (numOps c.I) ∧ complJobsSpec c.I (init c.I) = zeros c.I.length := by
  constructor
  · unfold complOpsSpec zeros
    rw [completed_init]
    apply List.ext_getElem
    · simp [length_allOps]
    · intro k h1 h2
      simp
  · unfold complJobsSpec
    apply map_range_eq_zeros
    intro k hk
    rw [remJobsSpec_init_getD c.I k hk, if_neg]
    omega

theorem mem_ongoingAt {s : State} {t : Int} {y : SOp} (h : y ∈ ongoingAt s t) :
    ∃ m, m < s.sched.length ∧ y ∈ s.sched.getD m [] := by
  unfold ongoingAt at h
  obtain ⟨ms, hms, hy⟩ := List.mem_flatMap.1 h
  have hy' : y ∈ ms := List.mem_reverse.1 ((List.takeWhile_sublist _).subset hy)
  obtain ⟨m, hm, rfl⟩ := List.mem_iff_getElem.1 hms
  exact ⟨m, hm, by simpa [List.getD_eq_getElem?_getD, List.getElem?_eq_getElem hm] using hy'⟩

theorem isScheduledUpdate_machines (c : Cfg) (s : State) (x : SOp) (o : FObs) (hw : o.WF) (hft : FT.machines ∈ o.fts) :
    (isScheduledUpdate c s x o).col .machines = ongoingMachSpec c s := by
  rw [(isScheduledUpdate_col c s x o hw hft).1]
  simp only [isScheduledCol, ongoingMachSpec]
  exact foldl_addAt_zeros (fun y : SOp => y.machine) _ _

theorem isScheduledUpdate_jobs (c : Cfg) (s : State) (x : SOp) (o : FObs) (hw : o.WF) (hft : FT.jobs ∈ o.fts) :
    (isScheduledUpdate c s x o).col .jobs = ongoingJobsSpec c s := by
  rw [(isScheduledUpdate_col c s x o hw hft).1]
  simp only [isScheduledCol, ongoingJobsSpec]
  exact foldl_addAt_zeros (fun y : SOp => y.job) _ _

theorem ongoingSpecs_init (c : Cfg) :
    ongoingMachSpec c (init c.I) = zeros (numMachines c.I) ∧ ongoingJobsSpec c (init c.I) = zeros c.I.length := by
  unfold ongoingMachSpec ongoingJobsSpec
  rw [ongoing_init]
  exact ⟨map_range_eq_zeros fun _ _ => rfl, map_range_eq_zeros fun _ _ => rfl⟩

end JS
