import JobShopProofs.RewardWorld
import JobShopProofs.ObserversTransparent
/-!
# C13 for reward observers constructed at any time

`C13_world` (`RewardWorld.lean`) covers reward observers constructed on the fresh dispatcher.  The library lets a user replace
the reward function of an environment later (`env.reward_function = IdleTimeReward(env.dispatcher)`), i.e. construct a reward
observer in an arbitrary state, after an arbitrary history (dispatches, resets, constructions of other observers).  The
telescoping identity then holds *relative to the state at construction* (`C13_late_reward`), and absolutely again after the next
reset; if the observer is constructed on a dispatcher that is fresh or was just reset, the sums are the absolute ones
(`C13_swapped_reward`).

Route: the invariant `Late id kind base w` for the one observer `id`, preserved by every event (constructors keep existing entries
whatever the dispatcher state: `step_ctor`) with `base` replaced by the fresh state by a reset, alongside `BaseInv` (subscriber
list well formed, dispatcher state reachable).
-/
namespace JS

/-- the state the sums are relative to: the state at construction, or the fresh state once a reset happened afterwards -/
def rewardBase (c : Cfg) (s0 : State) (post : List FEv) : State := if post.any (· == .reset) then init c.I else s0

namespace LateRew

open RewW (IsRew Fresh RelOK relOK_fresh relOK_upd fresh_resetOwn)

structure BaseInv (c : Cfg) (w : FWorld) : Prop where
  cfg : w.cfg = c
  subs : SubsOK w
  reach : ∃ evs, w.s = run c evs

theorem baseInv_init (c : Cfg) : BaseInv c (FWorld.init c) := ⟨rfl, subsOK_init c, [], rfl⟩

theorem baseInv_step {c : Cfg} {w : FWorld} (h : BaseInv c w) (ev : FEv) : BaseInv c (w.step ev) := by
  obtain ⟨h1, h2⟩ := FWorld.step_s w ev
  refine ⟨h1.trans h.cfg, ?_, ?_⟩
  · cases ev with
    | disp j p m => exact (dispatch_keeps w j p m).1 h.subs
    | reset => exact (reset_keeps w).1 h.subs
    | construct k fts => exact (good_construct w k fts).ok h.subs
    | composite parts => exact (good_constructComposite w parts).ok h.subs
    | residual b rm rj => exact (good_constructResidual w _ rm rj).ok h.subs
  · obtain ⟨evs, he⟩ := h.reach
    cases hev : ev.toEv? with
    | none =>
      rw [hev] at h2
      exact ⟨evs, h2.trans he⟩
    | some e =>
      rw [hev] at h2
      refine ⟨evs ++ [e], ?_⟩
      rw [run_snoc, ← he, ← h.cfg]
      exact h2

theorem baseInv_foldl {c : Cfg} : ∀ (evs : List FEv) (w : FWorld), BaseInv c w → BaseInv c (evs.foldl FWorld.step w)
  | [], _, h => h
  | e :: t, w, h => by simp only [List.foldl_cons]; exact baseInv_foldl t _ (baseInv_step h e)

/-- the reward observer `id` of kind `kind` is subscribed and its rewards telescope relative to `base` -/
structure Late (id : Nat) (kind : FKind) (base : State) (w : FWorld) : Prop where
  mem : id ∈ w.subs
  obs : ∃ o, w.heap[id]? = some o ∧ o.kind = kind ∧ RelOK base w.s o

theorem late_construct {w0 w1 : FWorld} {kind : FKind} {id : Nat} (hk : IsRew kind)
    (hc : w0.construct kind none = (w1, some id)) : Late id kind w0.s w1 := by
  rcases hk with rfl | rfl <;> simp only [FWorld.construct] at hc <;> split at hc <;> cases hc
  · exact ⟨by simp [FWorld.push], _, push_heap_new _ _, rfl, relOK_fresh _ _ ⟨rfl, fun _ => rfl⟩⟩
  · exact ⟨by simp [FWorld.push], _, push_heap_new _ _, rfl, relOK_fresh _ _ ⟨rfl, fun h => nomatch h⟩⟩

theorem late_ctor {w : FWorld} {id : Nat} {kind : FKind} {base : State} (h : Late id kind base w) (e : FEv)
    (he : e.isCtor = true) : Late id kind base (w.step e) := by
  obtain ⟨o, ho, hr⟩ := h.obs
  obtain ⟨_, h2, _, h4, h5, _⟩ := step_ctor w e (fun j p m h => by rw [h] at he; cases he) (fun h => by rw [h] at he; cases he)
  exact ⟨by rw [h4]; exact List.mem_append_left _ h.mem, o, h5 id o ho, by rw [h2]; exact hr⟩

theorem late_reset {w : FWorld} {id : Nat} {kind : FKind} {base : State} (hk : IsRew kind) (h : Late id kind base w) :
    Late id kind (init w.cfg.I) w.reset := by
  obtain ⟨o, ho, hko, _⟩ := h.obs
  refine ⟨good_mem (good_reset w) h.mem, ?_⟩
  obtain ⟨hs, hr⟩ := ownInv_fold_callReset (c := w.cfg) (T := IsRew) (OK := fun s o => Fresh s o)
    (fun k h => by rcases h with rfl | rfl <;> rfl)
    (fun w o hs hk => hs ▸ fresh_resetOwn hk)
    w.subs { w with s := JS.init w.cfg.I } (fun _ h => h) rfl
  obtain ⟨o', ho', hk'⟩ := reset_kind ho
  have hs' : w.reset.s = init w.cfg.I := hs
  rw [hs']
  refine ⟨o', ho', hk'.trans hko, relOK_fresh _ _ ?_⟩
  rcases hr id o' ho' (by rw [hk', hko]; exact hk) with h1 | ⟨hn, _⟩
  · exact h1
  · exact absurd h.mem hn

theorem late_dispatch {w : FWorld} (hv : Valid w.cfg.I) (hb : BaseInv w.cfg w) {id : Nat} {kind : FKind} {base : State}
    (hk : IsRew kind) (h : Late id kind base w) (j p : Nat) (m : Option Int) : Late id kind base (w.dispatch j p m).1 := by
  obtain ⟨o, ho, hko, hrel⟩ := h.obs
  rcases dispatch_at hv hb.subs hb.reach h.mem ho j p m with he | ⟨s', mm, op, hp, hi, hdr, hdd, hx, hs', hhp⟩
  · rw [he]; exact h
  · exact ⟨by rw [(dispatch_shell w j p m).1]; exact h.mem, _, hhp, (updObs_kind ..).trans hko, by
      rw [hs']; exact relOK_upd hv hi hdr hdd hx hp base o hrel (by rw [hko]; exact hk)⟩

theorem late_step {c : Cfg} (hv : Valid c.I) {w : FWorld} (hb : BaseInv c w) {id : Nat} {kind : FKind} {base : State}
    (hk : IsRew kind) (h : Late id kind base w) (ev : FEv) :
    Late id kind (if ev == .reset then init c.I else base) (w.step ev) := by
  have hcfg := hb.cfg
  subst hcfg
  cases ev with
  | disp j p m => exact late_dispatch hv hb hk h j p m
  | reset => exact late_reset hk h
  | construct k fts => exact late_ctor h _ rfl
  | composite parts => exact late_ctor h _ rfl
  | residual b rm rj => exact late_ctor h _ rfl

theorem rewardBase_cons (c : Cfg) (s0 : State) (e : FEv) (t : List FEv) :
    rewardBase c s0 (e :: t) = rewardBase c (if e == .reset then init c.I else s0) t := by
  unfold rewardBase
  simp only [List.any_cons]
  by_cases he : (e == FEv.reset) = true <;> simp [he]

theorem late_foldl {c : Cfg} (hv : Valid c.I) {id : Nat} {kind : FKind} (hk : IsRew kind) :
    ∀ (post : List FEv) (w : FWorld) (base : State), BaseInv c w → Late id kind base w →
      Late id kind (rewardBase c base post) (post.foldl FWorld.step w)
  | [], w, base, _, h => by simpa [rewardBase] using h
  | e :: t, w, base, hb, h => by
    simp only [List.foldl_cons]
    rw [rewardBase_cons]
    exact late_foldl hv hk t _ _ (baseInv_step hb e) (late_step hv hb hk h e)

end LateRew

/-- **C13 for a reward observer constructed at any time.**  A makespan-reward or idle-time-reward observer constructed after
any history `pre` (dispatch requests, resets, constructions of other observers), followed by any history `post`: it stays
subscribed, every reward is non-positive, there is one reward per accepted dispatch since the construction (since the last reset,
once there was one), and the rewards add up to the decrease of minus the makespan / minus the total idle time since then. -/
theorem C13_late_reward (c : Cfg) (hv : Valid c.I) (pre post : List FEv)
    (kind : FKind) (hk : kind = .makespanReward ∨ kind = .idleReward)
    (w1 : FWorld) (id : Nat) (hc : (FWorld.run c pre).construct kind none = (w1, some id)) :
    let w := post.foldl FWorld.step w1
    let base := rewardBase c (FWorld.run c pre).s post
    id ∈ w.subs ∧ ∃ o, w.heap[id]? = some o ∧ o.kind = kind ∧
      (∀ r ∈ o.rewards, r ≤ 0) ∧
      o.rewards.length + numScheduled base = numScheduled w.s ∧
      (kind = .makespanReward → o.rewards.sum = makespan base - makespan w.s ∧ o.curMakespan = makespan w.s) ∧
      (kind = .idleReward → o.rewards.sum = idleTotal base - idleTotal w.s) := by
  intro w base
  have hb0 : LateRew.BaseInv c (FWorld.run c pre) := LateRew.baseInv_foldl pre _ (LateRew.baseInv_init c)
  have hb1 : LateRew.BaseInv c w1 := by
    have := LateRew.baseInv_step hb0 (.construct kind none)
    simp only [FWorld.step] at this
    rw [hc] at this
    exact this
  have hl1 : LateRew.Late id kind (FWorld.run c pre).s w1 := LateRew.late_construct hk hc
  have hl := LateRew.late_foldl hv hk post w1 _ hb1 hl1
  obtain ⟨o, ho, hko, hrel⟩ := hl.obs
  exact ⟨hl.mem, o, ho, hko, hrel.neg, hrel.len, fun h => hrel.mksp (hko.trans h), fun h => hrel.idle (hko.trans h)⟩

/-- constructed on a dispatcher that was just reset (or is fresh) - what `env.reward_function = …` right after `env.reset()`
amounts to - the sums are the absolute ones of the property -/
theorem C13_swapped_reward (c : Cfg) (hv : Valid c.I) (pre post : List FEv)
    (kind : FKind) (hk : kind = .makespanReward ∨ kind = .idleReward)
    (hfresh : (FWorld.run c pre).s = init c.I)
    (w1 : FWorld) (id : Nat) (hc : (FWorld.run c pre).construct kind none = (w1, some id)) :
    let w := post.foldl FWorld.step w1
    ∃ o, w.heap[id]? = some o ∧ (∀ r ∈ o.rewards, r ≤ 0) ∧ o.rewards.length = numScheduled w.s ∧
      (kind = .makespanReward → o.rewards.sum = - makespan w.s) ∧ (kind = .idleReward → o.rewards.sum = - idleTotal w.s) := by
  dsimp only
  obtain ⟨_, o, ho, _, h1, h2, h3, h4⟩ := C13_late_reward c hv pre post kind hk w1 id hc
  have hbase : rewardBase c (FWorld.run c pre).s post = init c.I := by
    unfold rewardBase
    rw [hfresh]
    split <;> rfl
  rw [hbase] at h2 h3 h4
  rw [numScheduled_init] at h2
  rw [makespan_init] at h3
  rw [idleTotal_init] at h4
  refine ⟨o, ho, h1, by simpa using h2, fun h => ?_, fun h => ?_⟩
  · have := (h3 h).1; omega
  · have := h4 h; omega

/-! non-vacuity: two dispatches (machine 1 idle until time 3), THEN an idle-time reward observer is constructed (total idle time 3,
makespan 5 at that moment) and, as first event afterwards, a makespan reward observer; more dispatches (one rejected, two leaving
gaps), another feature observer constructed in between: the rewards add up to `3 - 10` resp. `5 - 10`, three rewards for `5 - 2`
accepted dispatches -/
set_option maxRecDepth 100000 in
example :
    let c : Cfg := { I := c11Instance }
    let pre : List FEv := [.construct .isCompleted none, .disp 0 0 (some 0), .disp 0 1 none]
    let post : List FEv := [.construct .makespanReward none, .disp 1 0 none, .disp 1 0 none, .construct .duration none,
      .disp 1 1 none, .disp 1 2 none]
    let w0 := FWorld.run c pre
    let r := w0.construct .idleReward none
    let w := post.foldl FWorld.step r.1
    r.2 = some 3 ∧ idleTotal w0.s = 3 ∧ makespan w0.s = 5 ∧ numScheduled w0.s = 2 ∧ rewardBase c w0.s post = w0.s ∧
    3 ∈ w.subs ∧ 4 ∈ w.subs ∧
    (w.heap[3]?.map fun o => (o.kind, o.rewards)) = some (.idleReward, [0, -6, -1]) ∧
    (w.heap[4]?.map fun o => (o.kind, o.rewards, o.curMakespan)) = some (.makespanReward, [-4, -1, 0], 10) ∧
    idleTotal w.s = 10 ∧ makespan w.s = 10 ∧ numScheduled w.s = 5 := by decide +kernel

/-! the same construction, with a reset afterwards: the sums are the absolute ones again -/
set_option maxRecDepth 100000 in
example :
    let c : Cfg := { I := c11Instance }
    let pre : List FEv := [.construct .isCompleted none, .disp 0 0 (some 0), .disp 0 1 none]
    let post : List FEv := [.construct .makespanReward none, .disp 1 0 none, .reset, .disp 1 0 none, .disp 1 1 none,
      .disp 0 0 (some 1)]
    let w0 := FWorld.run c pre
    let r := w0.construct .idleReward none
    let w := post.foldl FWorld.step r.1
    r.2 = some 3 ∧ idleTotal w0.s = 3 ∧ rewardBase c w0.s post = init c.I ∧ 3 ∈ w.subs ∧ 4 ∈ w.subs ∧
    (w.heap[3]?.map fun o => (o.kind, o.rewards)) = some (.idleReward, [0, -4, 0]) ∧
    (w.heap[4]?.map fun o => (o.kind, o.rewards, o.curMakespan)) = some (.makespanReward, [-4, -1, -2], 7) ∧
    idleTotal w.s = 4 ∧ makespan w.s = 7 ∧ numScheduled w.s = 3 := by decide +kernel

end JS
