import JobShopProofs.FeatureWorldDispatch
import JobShopProofs.FeatureWorldReset
import JobShopProofs.FeatureWorldCtor
/-!
# The value invariant holds in every reachable feature world

Observers are constructed on the fresh dispatcher (any kinds, any feature-type subsets, any order, helpers created
lazily, composites, residual graph updaters), then any sequence of dispatch requests (accepted or rejected) and resets
follows: in every world reached this way every subscribed observer satisfies `ObsVal` for the current dispatcher
state.
-/
namespace JS

/-- well-formed construction events: no feature type is listed twice (Python's `features` is a dict) -/
def FEv.NodupFts : FEv → Prop
  | .construct _ (some l) => l.Nodup
  | _ => True

theorem run_ctors {c : Cfg} (hv : Valid c.I) {P : FWorld → Prop}
    (hctor : ∀ w e, w.cfg = c → FInv w → w.s = init c.I → P w → e.isCtor = true → e.NodupFts → P (w.step e)) :
    ∀ (ctors : List FEv) (w : FWorld), w.cfg = c → FInv w → w.s = init c.I → P w →
    (∀ e ∈ ctors, e.isCtor = true) → (∀ e ∈ ctors, e.NodupFts) →
    FInv (ctors.foldl FWorld.step w) ∧ (ctors.foldl FWorld.step w).cfg = c ∧ P (ctors.foldl FWorld.step w)
  | [], w, hc, h, _, hp, _, _ => ⟨h, hc, hp⟩
  | e :: t, w, hc, h, hs, hp, hct, hnd => by
    simp only [List.foldl_cons]
    have he := hct e (List.mem_cons_self ..)
    have hn := hnd e (List.mem_cons_self ..)
    have hp1 := hctor w e hc h hs hp he hn
    subst hc
    obtain ⟨h1, h2, h3⟩ := finv_ctor hv h hs e he (by intro k l he'; rw [he'] at hn; exact hn)
    exact run_ctors hv hctor t _ h3 h1 h2 hp1
      (fun e' he' => hct e' (List.mem_cons_of_mem _ he')) (fun e' he' => hnd e' (List.mem_cons_of_mem _ he'))

theorem run_events {c : Cfg} (hv : Valid c.I) (hF : c.F = none ∨ PosDurI c.I) {P : FWorld → Prop}
    (hdisp : ∀ w j p m, w.cfg = c → FInv w → P w → P (w.dispatch j p m).1)
    (hreset : ∀ w, w.cfg = c → FInv w → P w → P w.reset) :
    ∀ (evs : List FEv) (w : FWorld), w.cfg = c → FInv w → P w → (∀ e ∈ evs, e.isCtor = false) →
    FInv (evs.foldl FWorld.step w) ∧ (evs.foldl FWorld.step w).cfg = c ∧ P (evs.foldl FWorld.step w)
  | [], w, hc, h, hp, _ => ⟨h, hc, hp⟩
  | e :: t, w, hc, h, hp, hev => by
    simp only [List.foldl_cons]
    have he := hev e (List.mem_cons_self ..)
    have hrest : ∀ e' ∈ t, e'.isCtor = false := fun e' he' => hev e' (List.mem_cons_of_mem _ he')
    cases e with
    | disp j p m =>
      have hp1 := hdisp w j p m hc h hp
      subst hc
      exact run_events hv hF hdisp hreset t _ (dispatch_keeps w j p m).2.2.1 (finv_dispatch hv hF h j p m) hp1 hrest
    | reset =>
      have hp1 := hreset w hc h hp
      subst hc
      exact run_events hv hF hdisp hreset t _ (reset_keeps w).2.2.1 (finv_reset hv h).1 hp1 hrest
    | construct k fts => cases he
    | composite parts => cases he
    | residual b rm rj => cases he

/-- induction over the reachable feature worlds: a property that holds of the empty world and is kept by constructors on the
fresh dispatcher, by dispatch requests and by resets holds, with `FInv`, after any constructions followed by any episode -/
theorem run_induct (c : Cfg) (hv : Valid c.I) (hF : c.F = none ∨ PosDurI c.I) {P : FWorld → Prop} (h0 : P (FWorld.init c))
    (hctor : ∀ w e, w.cfg = c → FInv w → w.s = init c.I → P w → e.isCtor = true → e.NodupFts → P (w.step e))
    (hdisp : ∀ w j p m, w.cfg = c → FInv w → P w → P (w.dispatch j p m).1)
    (hreset : ∀ w, w.cfg = c → FInv w → P w → P w.reset) (ctors evs : List FEv)
    (hct : ∀ e ∈ ctors, e.isCtor = true) (hnd : ∀ e ∈ ctors, e.NodupFts) (hev : ∀ e ∈ evs, e.isCtor = false) :
    FInv (FWorld.run c (ctors ++ evs)) ∧ (FWorld.run c (ctors ++ evs)).cfg = c ∧ P (FWorld.run c (ctors ++ evs)) := by
  unfold FWorld.run
  rw [List.foldl_append]
  obtain ⟨h, hs⟩ := finv_init c
  obtain ⟨h1, h2, h3⟩ := run_ctors hv hctor ctors (FWorld.init c) rfl h hs h0 hct hnd
  exact run_events hv hF hdisp hreset evs _ h2 h1 h3 hev

theorem finv_run (c : Cfg) (hv : Valid c.I) (hF : c.F = none ∨ PosDurI c.I) (ctors evs : List FEv)
    (hct : ∀ e ∈ ctors, e.isCtor = true) (hnd : ∀ e ∈ ctors, e.NodupFts) (hev : ∀ e ∈ evs, e.isCtor = false) :
    FInv (FWorld.run c (ctors ++ evs)) ∧ (FWorld.run c (ctors ++ evs)).cfg = c :=
  have h := run_induct c hv hF (P := fun _ => True) trivial (fun _ _ _ _ _ _ _ _ => trivial) (fun _ _ _ _ _ _ _ => trivial)
    (fun _ _ _ _ => trivial) ctors evs hct hnd hev
  ⟨h.1, h.2.1⟩

end JS
