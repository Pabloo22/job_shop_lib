import JobShopProofs.FeatCompleted
/-!
# Machine-level feature values: the incremental observers compute the from-scratch specifications

`DurationObserver`, `RemainingOperationsObserver` and `IsCompletedObserver`, machine level: initialisation gives the
specification of `FeatureSpecs`, and one update across an accepted dispatch maps the specification of the old state
to the specification of the new state.  For the first two the update theorems ask that the dispatched operation has a
single eligible machine (their `update` writes the chosen machine only, the specification counts every eligible one);
for `IsCompletedObserver` flexible operations are included.
-/
namespace JS

open FeatM

theorem FeatM.sum_map_flatMap {α β} (f : β → Int) (g : α → List β) : ∀ (l : List α),
    ((l.flatMap g).map f).sum = (l.map fun a => ((g a).map f).sum).sum
  | [] => rfl
  | a :: t => by
    simp only [List.flatMap_cons, List.map_append, List.sum_append, List.map_cons, List.sum_cons]
    rw [sum_map_flatMap f g t]

theorem FeatM.sum_range_single (h h' : Nat → Int) (j : Nat) (d : Int) (hj' : h j = d + h' j)
    (hne : ∀ k, k ≠ j → h k = h' k) : ∀ n, j < n →
    ((List.range n).map h).sum = d + ((List.range n).map h').sum
  | 0, hj => by omega
  | n + 1, hj => by
    simp only [List.range_succ, List.map_append, List.sum_append, List.map_cons, List.map_nil, List.sum_cons,
      List.sum_nil, Int.add_zero]
    by_cases hn : j = n
    · subst hn
      have : ((List.range j).map h) = ((List.range j).map h') := by
        apply List.map_congr_left
        intro k hk
        exact hne k (by have := List.mem_range.1 hk; omega)
      rw [this, hj']
      omega
    · rw [sum_range_single h h' j d hj' hne n (by omega), hne n (fun e => hn e.symm)]
      omega

theorem FeatM.sum_map_filter_zero {α} (f : α → Int) (q : α → Bool) (hq : ∀ a, q a = false → f a = 0) : ∀ (l : List α),
    ((l.filter q).map f).sum = (l.map f).sum
  | [] => rfl
  | a :: t => by
    by_cases h : q a = true
    · simp only [List.filter_cons, h, ↓reduceIte, List.map_cons, List.sum_cons, sum_map_filter_zero f q hq t]
    · have h0 := hq a (by simpa using h)
      simp only [List.filter_cons, h, Bool.false_eq_true, ↓reduceIte, List.map_cons, List.sum_cons, h0,
        sum_map_filter_zero f q hq t, Int.zero_add]

theorem FeatM.unscheduledPure_eq (I : Instance) (s : State) :
    unscheduledPure I s = (List.range I.length).flatMap (unschedJob I s) := rfl

theorem FeatM.sum_unscheduled_dispatch {I : Instance} {s s' : State} {j p m : Nat} {op : Op} (hwf : WF I s)
    (hd : DispSpec I s s' j p m op) (f : OpRef → Int) :
    ((unscheduledPure I s).map f).sum = f (j, p) + ((unscheduledPure I s').map f).sum := by
  have hj : j < I.length := getOp_job_lt I j p op hd.hop
  rw [unscheduledPure_eq, unscheduledPure_eq, sum_map_flatMap, sum_map_flatMap]
  apply sum_range_single _ _ j (f (j, p)) _ _ _ hj
  · rw [(unschedJob_dispatch hwf hd j).2]
    simp only [List.map_cons, List.sum_cons]
  · intro k hk
    rw [(unschedJob_dispatch hwf hd k).1 hk]

theorem dequesSpec_flatten (I : Instance) (s : State) : (dequesSpec I s).flatten = unscheduledPure I s := by
  unfold dequesSpec unscheduledPure
  rw [List.flatMap_def]

theorem FeatM.machCount_dispatched {I : Instance} {j p : Nat} {op : Op} (hop : getOp I j p = some op) (k : Nat) :
    machCount I k (j, p) = (op.machines.count k : Int) := by
  simp only [machCount, hop]

theorem FeatM.machCount_nonneg (I : Instance) (k : Nat) (r : OpRef) : 0 ≤ machCount I k r := by
  unfold machCount
  split
  · exact Int.natCast_nonneg _
  · exact Int.le_refl 0

theorem FeatM.machCount_pos_iff (I : Instance) (k : Nat) (r : OpRef) : 0 < machCount I k r ↔ onMachine I k r = true := by
  unfold machCount onMachine
  cases getOp I r.1 r.2 with
  | none => exact ⟨fun h => absurd h (Int.lt_irrefl 0), fun h => nomatch h⟩
  | some op =>
    dsimp only
    rw [Int.natCast_pos, List.count_pos_iff, List.contains_iff_mem]

theorem FeatM.machCount_of_not_onMachine (I : Instance) (k : Nat) (r : OpRef) (h : onMachine I k r = false) :
    machCount I k r = 0 := by
  have h0 := machCount_nonneg I k r
  have hn : ¬ 0 < machCount I k r := fun hp => by rw [(machCount_pos_iff I k r).1 hp] at h; cases h
  omega

theorem FeatM.durMachSpec_eq (I : Instance) (s : State) :
    durMachSpec I s = (List.range (numMachines I)).map fun m =>
      ((unscheduledPure I s).map fun r => machCount I m r * opDurF I r).sum := by
  unfold durMachSpec
  apply List.map_congr_left
  intro m _
  apply sum_map_filter_zero
  intro r hr
  rw [machCount_of_not_onMachine I m r hr, Int.zero_mul]

theorem FeatM.length_remMachSpec (I : Instance) (s : State) : (remMachSpec I s).length = numMachines I := by
  simp [remMachSpec]

theorem FeatM.length_durMachSpec (I : Instance) (s : State) : (durMachSpec I s).length = numMachines I := by
  simp [durMachSpec]

theorem FeatM.foldl_addAt_load (d : Int) (ms : List Nat) (col : List Int) (k : Nat) (h : ∀ m ∈ ms, m < col.length) :
    (ms.foldl (fun col m => addAt col m d) col).getD k 0 = col.getD k 0 + (ms.count k : Int) * d ∧
    (ms.foldl (fun col m => addAt col m d) col).length = col.length :=
  foldl_machines_load d ms col k h

theorem FeatM.remMachSpec_dispatch_getD {I : Instance} {s s' : State} {j p m : Nat} {op : Op} (hwf : WF I s)
    (hd : DispSpec I s s' j p m op) {k : Nat} (hk : k < numMachines I) :
    (remMachSpec I s').getD k 0 = (remMachSpec I s).getD k 0 - (op.machines.count k : Int) := by
  unfold remMachSpec
  rw [getD_map_range _ _ _ _ hk, getD_map_range _ _ _ _ hk, sum_unscheduled_dispatch hwf hd (machCount I k),
    machCount_dispatched hd.hop]
  omega

theorem remMachSpec_dispatch {I : Instance} {s s' : State} {j p m : Nat} {op : Op} (hwf : WF I s)
    (hd : DispSpec I s s' j p m op) :
    remMachSpec I s' = op.machines.foldl (fun col k => addAt col k (-1)) (remMachSpec I s) := by
  have hlt : ∀ k ∈ op.machines, k < (remMachSpec I s).length := by
    intro k hk
    rw [length_remMachSpec]
    exact machine_lt I j p k op hd.hop hk
  have hfold := fun k => foldl_addAt_load (-1) op.machines (remMachSpec I s) k hlt
  apply ext_getD_int (length_remMachSpec I s') ((hfold 0).2.trans (length_remMachSpec I s))
  intro k hk
  rw [(hfold k).1, remMachSpec_dispatch_getD hwf hd hk]
  omega

theorem remMachSpec_dispatch_nonflex {I : Instance} {s s' : State} {j p m : Nat} {op : Op} (hwf : WF I s)
    (hd : DispSpec I s s' j p m op) (hm : op.machines = [m]) :
    remMachSpec I s' = addAt (remMachSpec I s) m (-1) := by
  rw [remMachSpec_dispatch hwf hd, hm]
  rfl

theorem durMachSpec_dispatch_nonflex {I : Instance} {s s' : State} {j p m : Nat} {op : Op} (hwf : WF I s)
    (hd : DispSpec I s s' j p m op) (hm : op.machines = [m]) :
    durMachSpec I s' = addAt (durMachSpec I s) m (-op.dur) := by
  apply ext_getD_int (length_durMachSpec I s') ((addAt_length _ _ _).trans (length_durMachSpec I s))
  intro k hk
  rw [getD_addAt _ _ _ _ (by rw [length_durMachSpec]; exact hk), durMachSpec_eq, durMachSpec_eq,
    getD_map_range _ _ _ _ hk, getD_map_range _ _ _ _ hk,
    sum_unscheduled_dispatch hwf hd (fun r => machCount I k r * opDurF I r), machCount_dispatched hd.hop, hm]
  have hdur : opDurF I (j, p) = op.dur := by simp only [opDurF, hd.hop]
  rw [hdur]
  by_cases hkm : k = m
  · subst hkm
    simp only [List.count_singleton_self, ↓reduceIte]
    omega
  · have : ¬ m = k := fun e => hkm e.symm
    simp only [List.count_singleton, beq_iff_eq, this, hkm, ↓reduceIte]
    omega

theorem FeatM.durationInitCol_machines (c : Cfg) (s : State) : durationInitCol c s .machines = durMachSpec c.I s := rfl

theorem durationInit_machines (c : Cfg) (s : State) (o : FObs) (hw : o.WF) (hft : FT.machines ∈ o.fts) :
    (durationInit c s o).col .machines = durMachSpec c.I s :=
  (durationInit_col c s o hw hft).1

theorem durationUpdate_machines (c : Cfg) {s s' : State} {j p m : Nat} {op : Op} (hwf : WF c.I s)
    (hd : DispSpec c.I s s' j p m op) (hm : op.machines = [m]) (o : FObs) (hw : o.WF) (hft : FT.machines ∈ o.fts)
    (hspec : o.col .machines = durMachSpec c.I s) :
    (durationUpdate c s' (newEntry s j p m op) o).col .machines = durMachSpec c.I s' := by
  rw [(durationUpdate_col c s' (newEntry s j p m op) o hw hft).1]
  simp only [durationUpdateCol, newEntry]
  rw [hspec, durMachSpec_dispatch_nonflex hwf hd hm]

theorem remainingUpdate_machines (I : Instance) {s s' : State} {j p m : Nat} {op : Op} (hwf : WF I s)
    (hd : DispSpec I s s' j p m op) (hm : op.machines = [m]) (o : FObs) (hw : o.WF) (hft : FT.machines ∈ o.fts)
    (hspec : o.col .machines = remMachSpec I s) :
    (remainingUpdate (newEntry s j p m op) o).col .machines = remMachSpec I s' := by
  rw [(remainingUpdate_spec (newEntry s j p m op) o hw).2.2.2 hft, hspec, remMachSpec_dispatch_nonflex hwf hd hm]
  rfl

/-- one iteration of the initialisation loop -/
def FeatM.remStep (I : Instance) (o : FObs) (r : OpRef) : FObs :=
  let o := if o.has .jobs then o.setCol .jobs (addAt (o.col .jobs) r.1 1) else o
  if o.has .machines then
    match getOp I r.1 r.2 with
    | some op => o.setCol .machines (op.machines.foldl (fun col m => addAt col m 1) (o.col .machines))
    | none => o
  else o

/-- what one iteration does to the machine column -/
def FeatM.machStep (I : Instance) (col : List Int) (r : OpRef) : List Int :=
  match getOp I r.1 r.2 with
  | some op => op.machines.foldl (fun col m => addAt col m 1) col
  | none => col

theorem FeatM.remainingInit_eq (c : Cfg) (deques : List (List OpRef)) (o : FObs) :
    remainingInit c deques o = deques.flatten.foldl (remStep c.I) o := rfl

theorem FeatM.remStep_spec (I : Instance) (o : FObs) (r : OpRef) (hw : o.WF) :
    (remStep I o r).WF ∧ (remStep I o r).fts = o.fts ∧
    (FT.jobs ∈ o.fts → (remStep I o r).col .jobs = addAt (o.col .jobs) r.1 1) ∧
    (FT.machines ∈ o.fts → (remStep I o r).col .machines = machStep I (o.col .machines) r) := by
  obtain ⟨hw1, hf1, hs1, ho1⟩ := ifHas_setCol hw .jobs (addAt (o.col .jobs) r.1 1)
  unfold remStep machStep
  dsimp only
  generalize (if o.has .jobs = true then o.setCol .jobs (addAt (o.col .jobs) r.1 1) else o) = o1 at *
  cases getOp I r.1 r.2 with
  | none =>
    rw [ite_self]
    exact ⟨hw1, hf1, hs1, fun _ => ho1 .machines (by decide)⟩
  | some op =>
    obtain ⟨hw2, hf2, hs2, ho2⟩ := ifHas_setCol hw1 .machines
      (op.machines.foldl (fun col m => addAt col m 1) (o1.col .machines))
    refine ⟨hw2, hf2.trans hf1, fun h => (ho2 .jobs (by decide)).trans (hs1 h), fun h => ?_⟩
    rw [hs2 (hf1 ▸ h), ho1 .machines (by decide)]

theorem FeatM.remStep_fold (I : Instance) : ∀ (l : List OpRef) (o : FObs), o.WF →
    (l.foldl (remStep I) o).WF ∧ (l.foldl (remStep I) o).fts = o.fts ∧
    (FT.jobs ∈ o.fts → (l.foldl (remStep I) o).col .jobs = l.foldl (fun col r => addAt col r.1 1) (o.col .jobs)) ∧
    (FT.machines ∈ o.fts → (l.foldl (remStep I) o).col .machines = l.foldl (machStep I) (o.col .machines))
  | [], o, hw => ⟨hw, rfl, fun _ => rfl, fun _ => rfl⟩
  | r :: t, o, hw => by
    obtain ⟨h1, h2, h3, h4⟩ := remStep_spec I o r hw
    obtain ⟨k1, k2, k3, k4⟩ := remStep_fold I t (remStep I o r) h1
    simp only [List.foldl_cons]
    refine ⟨k1, k2.trans h2, fun hft => ?_, fun hft => ?_⟩
    · rw [k3 (h2 ▸ hft), h3 hft]
    · rw [k4 (h2 ▸ hft), h4 hft]

theorem FeatM.machStep_spec (I : Instance) (col : List Int) (r : OpRef) (hlen : numMachines I ≤ col.length) (k : Nat) :
    (machStep I col r).length = col.length ∧ (machStep I col r).getD k 0 = col.getD k 0 + machCount I k r := by
  unfold machStep machCount
  cases hg : getOp I r.1 r.2 with
  | none => simp
  | some op =>
    simp only
    have hlt : ∀ m ∈ op.machines, m < col.length := fun m hm =>
      Nat.lt_of_lt_of_le (machine_lt I r.1 r.2 m op hg hm) hlen
    obtain ⟨h1, h2⟩ := foldl_addAt_load 1 op.machines col k hlt
    rw [h1, h2, Int.mul_one]
    exact ⟨rfl, rfl⟩

theorem FeatM.mach_fold (I : Instance) : ∀ (l : List OpRef) (col : List Int), numMachines I ≤ col.length →
    (l.foldl (machStep I) col).length = col.length ∧
    ∀ k, (l.foldl (machStep I) col).getD k 0 = col.getD k 0 + (l.map (machCount I k)).sum
  | [], col, _ => ⟨rfl, fun k => by simp⟩
  | r :: t, col, hlen => by
    have hs := machStep_spec I col r hlen
    obtain ⟨h1, h2⟩ := mach_fold I t (machStep I col r) (by rw [(hs 0).1]; exact hlen)
    simp only [List.foldl_cons, List.map_cons, List.sum_cons]
    refine ⟨by rw [h1, (hs 0).1], fun k => ?_⟩
    rw [h2 k, (hs k).2]
    omega

/-- initialisation from the true unscheduled lists gives the specification (flexible instances included) -/
theorem remainingInit_spec (c : Cfg) (s : State) (o : FObs) (hw : o.WF)
    (hz : ∀ ft ∈ o.fts, o.col ft = zeros (numEntities c.I ft)) :
    (FT.jobs ∈ o.fts → (remainingInit c (dequesSpec c.I s) o).col .jobs = remJobsSpec c.I s) ∧
    (FT.machines ∈ o.fts → (remainingInit c (dequesSpec c.I s) o).col .machines = remMachSpec c.I s) ∧
    (remainingInit c (dequesSpec c.I s) o).WF ∧ (remainingInit c (dequesSpec c.I s) o).fts = o.fts := by
  rw [remainingInit_eq, dequesSpec_flatten]
  obtain ⟨h1, h2, h3, h4⟩ := remStep_fold c.I (unscheduledPure c.I s) o hw
  refine ⟨fun hft => ?_, fun hft => ?_, h1, h2⟩
  · rw [h3 hft, hz _ hft]
    exact foldl_addAt_zeros (fun r : OpRef => r.1) (unscheduledPure c.I s) c.I.length
  · rw [h4 hft, hz _ hft]
    have hl : (zeros (numEntities c.I .machines)).length = numMachines c.I := zeros_length _
    obtain ⟨k1, k2⟩ := mach_fold c.I (unscheduledPure c.I s) (zeros (numEntities c.I .machines)) (Nat.le_of_eq hl.symm)
    apply ext_getD_int (k1.trans hl) (length_remMachSpec c.I s)
    intro k hk
    rw [k2 k, getD_zeros, remMachSpec, getD_map_range _ _ _ _ hk]
    omega

theorem FeatM.icMach_spec (ms : List Nat) (o : FObs) (hw : o.WF) (hft : FT.machines ∈ o.fts) :
    (icMach ms o).remMach = ms.foldl (fun col m => addAt col m (-1)) o.remMach ∧
    (icMach ms o).col .machines =
      ms.foldl (fun col m => setAt col m
        (if (ms.foldl (fun col m => addAt col m (-1)) o.remMach).getD m 0 == 0 then 1 else 0)) (o.col .machines) := by
  unfold icMach
  rw [if_pos (has_iff.2 hft)]
  refine ⟨rfl, ?_⟩
  exact col_setCol_same o .machines _ (hw.has_col hft)

theorem FeatM.setAt_fold (v : Nat → Int) (ms : List Nat) (col : List Int) :
    (ms.foldl (fun col m => setAt col m (v m)) col).length = col.length ∧
    ∀ k, (ms.foldl (fun col m => setAt col m (v m)) col).getD k 0 =
      if k ∈ ms ∧ k < col.length then v k else col.getD k 0 :=
  ⟨(foldl_setAt_idx id v ms col 0).2, fun k => by
    rw [show (ms.foldl (fun col m => setAt col m (v m)) col).getD k 0 = _ from (foldl_setAt_idx id v ms col k).1]
    simp only [id, exists_eq_right]⟩

theorem FeatM.machineUsed_of_getOp {I : Instance} {j p k : Nat} {op : Op} (hop : getOp I j p = some op)
    (hk : k ∈ op.machines) : machineUsed I k = true := by
  unfold machineUsed
  rw [List.any_eq_true]
  refine ⟨(j, p), mem_allOps_of_getOp hop, ?_⟩
  simp only [onMachine, hop]
  simpa using hk

theorem FeatM.length_complMachSpec (I : Instance) (s : State) : (complMachSpec I s).length = numMachines I := by
  simp [complMachSpec]

theorem isCompletedUpdate_machines (c : Cfg) {s s' : State} {j p m : Nat} {op : Op} (hwf : WF c.I s)
    (hd : DispSpec c.I s s' j p m op) (o : FObs) (hw : o.WF) (hft : FT.machines ∈ o.fts)
    (hrem : o.remMach = remMachSpec c.I s) (hspec : o.col .machines = complMachSpec c.I s) :
    (isCompletedUpdate c s' (newEntry s j p m op) o).remMach = remMachSpec c.I s' ∧
    (isCompletedUpdate c s' (newEntry s j p m op) o).col .machines = complMachSpec c.I s' := by
  have e : isCompletedUpdate c s' (newEntry s j p m op) o =
      icJobs (newEntry s j p m op) (icMach op.machines (icOps c s' o)) := by
    rw [isCompletedUpdate_eq]
    show icJobs _ (icMach (match getOp c.I j p with | some op => op.machines | none => []) _) = _
    rw [hd.hop]
  rw [e]
  obtain ⟨a1, a2, _, _, a3, a4⟩ := icOps_facts c s' o hw
  obtain ⟨b1, b2⟩ := icMach_spec op.machines (icOps c s' o) a1 (a2 ▸ hft)
  obtain ⟨_, _, _, c1, c2⟩ := icJobs_facts (newEntry s j p m op) _ (icMach_facts op.machines _ a1).1
  rw [c1, c2 _ (by decide), b1, b2, a3, a4 _ (by decide), hrem, hspec, ← remMachSpec_dispatch hwf hd]
  refine ⟨rfl, ?_⟩
  obtain ⟨k1, k2⟩ := setAt_fold (fun m => if (remMachSpec c.I s').getD m 0 == 0 then 1 else 0) op.machines
    (complMachSpec c.I s)
  apply ext_getD_int (k1.trans (length_complMachSpec c.I s)) (length_complMachSpec c.I s')
  intro k hk
  rw [k2 k, length_complMachSpec]
  unfold complMachSpec
  rw [getD_map_range _ _ _ _ hk, getD_map_range _ _ _ _ hk]
  by_cases hkm : k ∈ op.machines
  · have hu := machineUsed_of_getOp hd.hop hkm
    simp only [hkm, hk, and_self, ↓reduceIte, hu, and_true, beq_iff_eq]
  · have h0 : op.machines.count k = 0 := List.count_eq_zero_of_not_mem hkm
    have := remMachSpec_dispatch_getD hwf hd hk
    rw [h0] at this
    simp only [hkm, false_and, ↓reduceIte]
    rw [this]
    simp

theorem FeatM.unscheduledPure_init (I : Instance) : unscheduledPure I (init I) = allOps I := by
  unfold unscheduledPure allOps
  rw [List.flatMap_def, List.flatMap_def]
  congr 1
  apply List.map_congr_left
  intro j _
  simp only [init_jobIdx_getD, List.drop_zero]

theorem FeatM.sum_map_pos {α} (f : α → Int) (hf : ∀ a, 0 ≤ f a) : ∀ (l : List α),
    0 ≤ (l.map f).sum ∧ ((∃ a ∈ l, 0 < f a) → 0 < (l.map f).sum)
  | [] => ⟨Int.le_refl 0, fun ⟨_, ha, _⟩ => nomatch ha⟩
  | b :: t => by
    obtain ⟨h0, hp⟩ := sum_map_pos f hf t
    have hb := hf b
    simp only [List.map_cons, List.sum_cons]
    refine ⟨by omega, fun ⟨a, ha, hpos⟩ => ?_⟩
    rcases List.mem_cons.1 ha with rfl | ha
    · omega
    · have := hp ⟨a, ha, hpos⟩
      omega

theorem complMachSpec_init (I : Instance) : complMachSpec I (init I) = zeros (numMachines I) := by
  unfold complMachSpec
  apply map_range_eq_zeros
  intro k hk
  by_cases hu : machineUsed I k = true
  · have hpos : 0 < (remMachSpec I (init I)).getD k 0 := by
      unfold remMachSpec
      rw [getD_map_range _ _ _ _ hk, unscheduledPure_init]
      apply (sum_map_pos _ (machCount_nonneg I k) _).2
      unfold machineUsed at hu
      obtain ⟨r, hr, hon⟩ := List.any_eq_true.1 hu
      exact ⟨r, hr, (machCount_pos_iff I k r).2 hon⟩
    have : ¬ ((remMachSpec I (init I)).getD k 0 = 0) := by omega
    rw [if_neg (fun h => this h.1)]
  · rw [if_neg (fun h => hu h.2)]

end JS
