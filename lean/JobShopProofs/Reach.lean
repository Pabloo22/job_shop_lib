import JobShopProofs.Invariant
import JobShopProofs.QueriesSpec
/-!
# Invariants along every history

`Inv c s` = dispatcher invariant `CInv` + memo coherence `CacheOK`.  It holds initially and is preserved by
every event (`disp` accepted or rejected, `reset`, any query), hence in every state `run c evs`.
-/
namespace JS

structure Inv (c : Cfg) (s : State) : Prop where
  cinv : CInv c.I s
  cache : CacheOK c s

theorem cinv_setCache {I : Instance} {s : State} (k : Cache) (h : CInv I s) : CInv I (setCache s k) :=
  ⟨⟨h.wf.lenS, h.wf.lenM, h.wf.lenI, h.wf.lenN⟩,
   let ⟨a, hr, ha, ha2⟩ := h.abs; ⟨a, ⟨hr.idx, hr.mN, hr.jN, hr.sched⟩, ha, ha2⟩,
   h.inList, h.ordered, h.lastEnd⟩

theorem inv_of_setCache {c : Cfg} {s s' : State} {k : Cache} (h : CInv c.I s) (hk : s' = setCache s k)
    (hok : CacheOK c s') : Inv c s' := ⟨hk ▸ cinv_setCache k h, hok⟩

theorem inv_init (c : Cfg) : Inv c (init c.I) := ⟨cinv_init c.I, cacheOK_empty c _ rfl⟩

theorem inv_dispatch {c : Cfg} (hv : Valid c.I) {s s' : State} {j p m : Nat} (hi : Inv c s)
    (h : dispatch c.I s j p m = .ok s') : Inv c s' := by
  obtain ⟨op, hd⟩ := dispatch_ok h
  exact ⟨cinv_dispatch (hv j p op hd.hop).2.2 hi.cinv hd, cacheOK_empty c s' hd.cache⟩

theorem inv_dispatchReq {c : Cfg} (hv : Valid c.I) {s s' : State} {j p : Nat} {m : Option Int} (hi : Inv c s)
    (h : dispatchReq c.I s j p m = .ok s') : Inv c s' :=
  let ⟨_, _, _, _, hd⟩ := dispatchReq_ok h
  inv_dispatch hv hi hd

/-- what an event does to a state with a coherent memo: an accepted dispatch, a return to the initial state, or a
change of the memo only (rejected requests and queries) -/
theorem stepEv_cases {c : Cfg} {s : State} (h : CacheOK c s) (e : Ev) :
    (∃ j p m op, DispSpec c.I s (stepEv c s e).1 j p m op) ∨ (stepEv c s e).1 = init c.I ∨
    ∃ k, (stepEv c s e).1 = setCache s k ∧ CacheOK c (stepEv c s e).1 := by
  cases e with
  | disp j p m =>
    simp only [stepEv]
    split
    · next s' hd =>
      obtain ⟨mm, op, _, hsp⟩ := dispatchReq_spec hd
      exact .inl ⟨j, p, mm, op, hsp⟩
    · exact .inr (.inr ⟨s.cache, rfl, h⟩)
  | reset => exact .inr (.inl rfl)
  | query q =>
    obtain ⟨_, hok, k, hk⟩ := ask_ok c s h q
    exact .inr (.inr ⟨k, hk, hok⟩)

theorem inv_stepEv {c : Cfg} (hv : Valid c.I) {s : State} (hi : Inv c s) (e : Ev) : Inv c (stepEv c s e).1 := by
  rcases stepEv_cases hi.cache e with ⟨j, p, m, op, hd⟩ | h | ⟨k, hk, hok⟩
  · exact ⟨cinv_dispatch (hv j p op hd.hop).2.2 hi.cinv hd, cacheOK_empty c _ hd.cache⟩
  · exact h ▸ inv_init c
  · exact inv_of_setCache hi.cinv hk hok

theorem inv_runEvs {c : Cfg} (hv : Valid c.I) {s : State} (hi : Inv c s) (evs : List Ev) : Inv c (runEvs c s evs) :=
  List.foldlRecOn evs _ hi fun _ h e _ => inv_stepEv hv h e

/-- Induction along a history for a property of the state that ignores the memo: it holds after every history if
it holds initially and every accepted dispatch from a state satisfying the invariant keeps it. -/
theorem run_induction {c : Cfg} (hv : Valid c.I) (Q : State → Prop) (hinit : Q (init c.I))
    (hcache : ∀ s k, Q s → Q (setCache s k))
    (hdisp : ∀ s s' j p m op, Inv c s → Q s → DispSpec c.I s s' j p m op → Q s') (evs : List Ev) :
    Q (run c evs) := by
  refine (List.foldlRecOn evs (fun s e => (stepEv c s e).1) (motive := fun s => Inv c s ∧ Q s)
    ⟨inv_init c, hinit⟩ ?_).2
  rintro s ⟨hi, hq⟩ e _
  refine ⟨inv_stepEv hv hi e, ?_⟩
  rcases stepEv_cases hi.cache e with ⟨j, p, m, op, hd⟩ | h | ⟨k, hk, _⟩
  · exact hdisp s _ j p m op hi hq hd
  · exact h ▸ hinit
  · exact hk ▸ hcache s k hq

theorem run_snoc (c : Cfg) (evs : List Ev) (e : Ev) : run c (evs ++ [e]) = (stepEv c (run c evs) e).1 := by
  simp [run, runEvs, List.foldl_append]

theorem inv_run {c : Cfg} (hv : Valid c.I) (evs : List Ev) : Inv c (run c evs) := inv_runEvs hv (inv_init c) evs

end JS
