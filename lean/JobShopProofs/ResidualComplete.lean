import JobShopProofs.ResidualWorld
import JobShopProofs.Properties.C06
import JobShopProofs.GraphEdges
/-!
# C17, last clause: in a complete state every node of the residual graph is removed

With both removal options on, on instances with at least one job, no empty job and no unused machine: when the schedule is complete
every node of the residual graph is removed (`C17_complete_all_removed`).

* graph level: after `remove_node` no node that is still present is isolated (`RC.noiso_removeNode`); no builder joins two special
  nodes (source, sink, global) by an edge and edges are only ever deleted (`RC.SpecialSep`); every special node of a built graph
  has an edge (`RC.noIsoS_build`).  A special node that is present therefore has a present neighbour that is an operation, machine
  or job node (`RC.all_removed`).
* world level: `RC.GX` (no isolated node, special nodes separated, all flags set in a complete state), carried with
  `RW.GraphOK` through every reachable world by `RW.residual_run`.
-/
namespace JS

/-- no job without operations -/
def NoEmptyJobG (I : Instance) : Prop := ∀ j, j < I.length → (I.getD j []).length ≠ 0
/-- every machine id below `numMachines` is eligible for some operation -/
def AllMachinesUsed (I : Instance) : Prop := ∀ m, m < numMachines I → machineUsed I m = true

namespace RC

def isSpecial : NodeKind → Bool
  | .global | .source | .sink => true
  | _ => false

/-- node `k` of `g` is a special node (source, sink, global) -/
def sp (g : Graph) (k : Nat) : Bool := isSpecial (g.nodes.getD k (.operation 0))

/-- node `k` is an end of some edge of `g` -/
def Linked (g : Graph) (k : Nat) : Prop := ∃ a e, RA.EdgeAt g a e ∧ (a = k ∨ e.1 = k)

/-- every special node that is present has an edge -/
def NoIsoS (g : Graph) : Prop := ∀ k, g.present k = true → sp g k = true → Linked g k

/-- no edge joins two special nodes -/
def SpecialSep (g : Graph) : Prop := ∀ a e, e ∈ g.adj.getD a [] → sp g a = true → sp g e.1 = false

theorem linked_of_degree {g : Graph} {k : Nat} (hp : g.present k = true) (hd : g.degree k ≠ 0) : Linked g k := by
  unfold Graph.degree at hd
  by_cases h1 : (g.adj.getD k []).length = 0
  · have h2 : (g.edges.filter fun e => e.2.1 == k).length ≠ 0 := by omega
    obtain ⟨x, hx⟩ := List.exists_mem_of_length_pos (Nat.pos_of_ne_zero h2)
    obtain ⟨hx1, hx2⟩ := List.mem_filter.1 hx
    obtain ⟨a, b, t⟩ := x
    obtain ⟨_, hpa, hmem⟩ := (mem_edges_iff g a b t).1 hx1
    exact ⟨a, (b, t), ⟨hpa, hmem⟩, Or.inr (by simpa using hx2)⟩
  · obtain ⟨e, he⟩ := List.exists_mem_of_length_pos (Nat.pos_of_ne_zero h1)
    exact ⟨k, e, ⟨hp, he⟩, Or.inl rfl⟩

theorem dropNode_present {g : Graph} {v k : Nat} (h : (g.dropNode v).present k = true) :
    g.present k = true ∧ k ≠ v := by
  simp only [Graph.present, Graph.dropNode, List.getD_eq_getElem?_getD, List.getElem?_set, Bool.and_eq_true,
    decide_eq_true_eq, Bool.not_eq_true'] at h ⊢
  obtain ⟨h1, h2⟩ := h
  by_cases hkv : v = k
  · subst hkv
    rw [if_pos rfl] at h2
    split at h2
    · simp at h2
    · simp at h2
  · rw [if_neg hkv] at h2
    exact ⟨⟨of_decide_eq_true h1, h2⟩, fun e => hkv e.symm⟩

theorem foldl_dropNode_present : ∀ (L : List Nat) (g : Graph) (k : Nat),
    (L.foldl (fun g v => g.dropNode v) g).present k = true → g.present k = true ∧ k ∉ L
  | [], _, _, h => ⟨h, by simp⟩
  | v :: t, g, k, h => by
    simp only [List.foldl_cons] at h
    obtain ⟨h1, h2⟩ := foldl_dropNode_present t _ k h
    obtain ⟨h3, h4⟩ := dropNode_present h1
    exact ⟨h3, by simp [h2, h4]⟩

theorem noiso_removeNode (g : Graph) (u k : Nat) (h : (g.removeNode u).present k = true) : Linked (g.removeNode u) k := by
  unfold Graph.removeNode at h ⊢
  simp only at h ⊢
  obtain ⟨h1, h2⟩ := foldl_dropNode_present _ _ k h
  have hlt : k < (g.dropNode u).nodes.length := present_lt h1
  have hdeg : (g.dropNode u).degree k ≠ 0 := by
    intro hd
    apply h2
    simp only [List.mem_filter, List.mem_range, Bool.and_eq_true, beq_iff_eq]
    exact ⟨hlt, h1, hd⟩
  obtain ⟨a, e, hE, hk⟩ := linked_of_degree h1 hdeg
  exact ⟨a, e, RA.edgeAt_sweep hE _, hk⟩

theorem sp_nodes {g g' : Graph} (h : g'.nodes = g.nodes) (k : Nat) : sp g' k = sp g k := by
  unfold sp; rw [h]

theorem noIsoS_removeIf (g : Graph) (nid : Nat) (cond : Bool) (h : NoIsoS g) : NoIsoS (removeIf g nid cond) := by
  unfold removeIf
  split
  · intro k hk _
    exact noiso_removeNode g nid k hk
  · exact h

theorem dropNode_adj_sub (g : Graph) (v a : Nat) (e : Nat × EType) (h : e ∈ (g.dropNode v).adj.getD a []) :
    e ∈ g.adj.getD a [] := by
  simp only [Graph.dropNode, List.getD_eq_getElem?_getD, List.getElem?_map, List.getElem?_set] at h ⊢
  split at h
  · split at h
    · simp at h
    · simp at h
  · cases hh : g.adj[a]? with
    | none => rw [hh] at h; simp at h
    | some l =>
      rw [hh] at h
      simp only [Option.map_some, Option.getD_some, List.mem_filter] at h ⊢
      exact h.1

theorem removeNode_adj_sub (g : Graph) (u a : Nat) (e : Nat × EType) (h : e ∈ (g.removeNode u).adj.getD a []) :
    e ∈ g.adj.getD a [] := by
  unfold Graph.removeNode at h
  exact foldl_pres (P := fun g' => e ∈ g'.adj.getD a [] → e ∈ g.adj.getD a []) _ _ _
    (fun g' hg' v _ h' => hg' (dropNode_adj_sub g' v a e h')) (dropNode_adj_sub g u a e) h

theorem specialSep_removeIf (g : Graph) (nid : Nat) (cond : Bool) (h : SpecialSep g) : SpecialSep (removeIf g nid cond) := by
  unfold removeIf
  split
  · intro a e he hs
    rw [sp_nodes (removeNode_nodes g nid)] at hs ⊢
    exact h a e (removeNode_adj_sub g nid a e he) hs
  · exact h

theorem removeFlagged_nodes (g : Graph) (flags : List Int) (kind : Nat → NodeKind) :
    (removeFlagged g flags kind).nodes = g.nodes :=
  removeFlagged_pres (P := fun g' => g'.nodes = g.nodes) (fun _ _ _ h => (removeIf_nodes ..).trans h) g flags kind rfl

theorem removeFlagged_mono (g : Graph) (flags : List Int) (kind : Nat → NodeKind) (k : Nat)
    (h : g.removed.getD k true = true) : (removeFlagged g flags kind).removed.getD k true = true :=
  removeFlagged_pres (fun g nid cond => removeIf_mono g nid cond k) g flags kind h

/-- the node of an entity whose flag is 1 is removed (or not in the graph) afterwards -/
theorem removeFlagged_removed (g : Graph) (flags : List Int) (kind : Nat → NodeKind) (i : Nat)
    (h : flags[i]? = some 1) : (removeFlagged g flags kind).removed.getD (nodeIdOf g (kind i)) true = true := by
  exact foldl_removeIf_removed (fun g (fm : Int × Nat) => nodeIdOf g (kind fm.2)) (fun _ fm => fm.1 == 1)
    (Q := fun g' => g'.nodes = g.nodes) (fun _ _ _ hn => (removeIf_nodes ..).trans hn) _ (1, i)
    (fun _ hn => ⟨nodeIdOf_congr hn _, rfl⟩) _ g rfl (List.mem_zipIdx_iff_getElem?.2 h)

theorem removed_of_not_mem {g : Graph} (hg : GInv g) {k : NodeKind} (h : k ∉ g.nodes) :
    g.removed.getD (nodeIdOf g k) true = true := by
  unfold nodeIdOf
  rw [List.idxOf_eq_length h, List.getD_eq_getElem?_getD, List.getElem?_eq_none (by rw [hg.lenR]; exact Nat.le_refl _)]
  rfl

theorem flag_stage {ns : List NodeKind} (g : Graph) (hg : GInv g ∧ g.nodes = ns) (b : Bool) (has : Graph → Bool)
    (flags : List Int) (kind : Nat → NodeKind) (i : Nat) (hhas : has g = false → kind i ∉ g.nodes) (hb : b = true)
    (h : flags[i]? = some 1) :
    (if (b && has g) = true then removeFlagged g flags kind else g).removed.getD (List.idxOf (kind i) ns) true = true := by
  obtain ⟨hg, rfl⟩ := hg
  subst hb
  cases hh : has g with
  | true => exact removeFlagged_removed g flags kind i h
  | false => exact removed_of_not_mem hg (hhas hh)

theorem hasMachineNodes_false {g : Graph} (h : hasMachineNodes g = false) (m : Nat) : NodeKind.machine m ∉ g.nodes :=
  fun hm => List.any_eq_false.1 h _ hm rfl

theorem hasJobNodes_false {g : Graph} (h : hasJobNodes g = false) (j : Nat) : NodeKind.job j ∉ g.nodes :=
  fun hm => List.any_eq_false.1 h _ hm rfl

theorem removeCompletedOps_nodes (I : Instance) (g : Graph) (refs : List OpRef) :
    (removeCompletedOps I g refs).nodes = g.nodes :=
  removeCompletedOps_pres (P := fun g' => g'.nodes = g.nodes) (fun _ _ _ h => (removeIf_nodes ..).trans h) I g refs rfl

theorem ginv_nodes_removeIf (ns : List NodeKind) (g : Graph) (nid : Nat) (cond : Bool) (h : GInv g ∧ g.nodes = ns) :
    GInv (removeIf g nid cond) ∧ (removeIf g nid cond).nodes = ns :=
  ⟨ginv_removeIf h.1 nid cond, (removeIf_nodes g nid cond).trans h.2⟩

theorem residualUpdate_mach_removed (c : Cfg) (s : State) (heap : List FObs) (o : FObs) (hg : GInv o.graph)
    (hrm : o.rmMach = true) (m : Nat) (hm : ((flagSource heap o).col .machines)[m]? = some 1) :
    (residualUpdate c s heap o).removed.getD (nodeIdOf (residualUpdate c s heap o) (.machine m)) true = true := by
  rw [nodeIdOf_congr (RA.residualUpdate_nodes c s heap o)]
  unfold residualUpdate
  have h1 := removeCompletedOps_pres (ginv_nodes_removeIf o.graph.nodes) c.I _ (completedPure c s) ⟨hg, rfl⟩
  -- removed by the machine stage; the job stage only removes more
  exact flagStage_pres (P := fun g => g.removed.getD (nodeIdOf o.graph (.machine m)) true = true) _ _ _ _ _
    (fun _ => removeFlagged_mono _ _ _ _)
    (flag_stage _ h1 o.rmMach hasMachineNodes _ .machine m (fun hf => hasMachineNodes_false hf m) hrm hm)

theorem residualUpdate_job_removed (c : Cfg) (s : State) (heap : List FObs) (o : FObs) (hg : GInv o.graph)
    (hrj : o.rmJob = true) (j : Nat) (hj : ((flagSource heap o).col .jobs)[j]? = some 1) :
    (residualUpdate c s heap o).removed.getD (nodeIdOf (residualUpdate c s heap o) (.job j)) true = true := by
  rw [nodeIdOf_congr (RA.residualUpdate_nodes c s heap o)]
  unfold residualUpdate
  have h2 := flagStage_pres (P := fun g => GInv g ∧ g.nodes = o.graph.nodes) o.rmMach hasMachineNodes _
    ((flagSource heap o).col .machines) .machine (fun _ => removeFlagged_pres (ginv_nodes_removeIf _) _ _ _)
    (removeCompletedOps_pres (ginv_nodes_removeIf o.graph.nodes) c.I _ (completedPure c s) ⟨hg, rfl⟩)
  exact flag_stage _ h2 o.rmJob hasJobNodes _ .job j (fun hf => hasJobNodes_false hf j) hrj hj

def shapeL (n M J : Nat) (S : List NodeKind) : List NodeKind :=
  (List.range n).map NodeKind.operation ++ (List.range M).map NodeKind.machine ++ (List.range J).map NodeKind.job ++ S

theorem shapeL_length (n M J : Nat) (S : List NodeKind) : (shapeL n M J S).length = n + M + J + S.length := by
  simp [shapeL]; omega

theorem shape_cases (n M J : Nat) (S : List NodeKind) (d : NodeKind) (k : Nat) (hk : k < (shapeL n M J S).length) :
    (k < n ∧ (shapeL n M J S).getD k d = .operation k) ∨
    (∃ m, m < M ∧ (shapeL n M J S).getD k d = .machine m ∧ List.idxOf (NodeKind.machine m) (shapeL n M J S) = k) ∨
    (∃ j, j < J ∧ (shapeL n M J S).getD k d = .job j ∧ List.idxOf (NodeKind.job j) (shapeL n M J S) = k) ∨
    (n + M + J ≤ k ∧ (shapeL n M J S).getD k d ∈ S) := by
  have hk' := hk
  rw [shapeL_length] at hk'
  by_cases h1 : k < n
  · refine Or.inl ⟨h1, ?_⟩
    unfold shapeL
    rw [List.append_assoc, List.append_assoc]
    exact RA.getD_opnodes n _ k h1 d
  · by_cases h2 : k < n + M
    · have hid := idxOf_machine n M (k - n) ((List.range J).map NodeKind.job ++ S) (by omega)
      rw [← List.append_assoc, show n + (k - n) = k by omega] at hid
      exact Or.inr (Or.inl ⟨k - n, by omega, getD_of_idxOf hid hk d, hid⟩)
    · by_cases h3 : k < n + M + J
      · have hid := idxOf_job n M J (k - (n + M)) S (by omega)
        rw [show n + M + (k - (n + M)) = k by omega] at hid
        exact Or.inr (Or.inr (Or.inl ⟨k - (n + M), by omega, getD_of_idxOf hid hk d, hid⟩))
      · refine Or.inr (Or.inr (Or.inr ⟨by omega, ?_⟩))
        have hlen : ((List.range n).map NodeKind.operation ++ (List.range M).map NodeKind.machine ++
            (List.range J).map NodeKind.job).length = n + M + J := by simp; omega
        unfold shapeL
        rw [List.getD_eq_getElem?_getD, List.getElem?_append_right (by omega), hlen,
          List.getElem?_eq_getElem (by omega), Option.getD_some]
        exact List.getElem_mem _

theorem sp_false_of_lt {g : Graph} {n M J : Nat} {S : List NodeKind} (hn : g.nodes = shapeL n M J S) {k : Nat}
    (hk : k < n + M + J) : sp g k = false := by
  have hlt : k < (shapeL n M J S).length := by rw [shapeL_length]; omega
  unfold sp
  rw [hn]
  rcases shape_cases n M J S (.operation 0) k hlt with ⟨_, h⟩ | ⟨m, _, h, _⟩ | ⟨j, _, h, _⟩ | ⟨h, _⟩
  · rw [h]; rfl
  · rw [h]; rfl
  · rw [h]; rfl
  · omega

theorem sp_false_of_ge {g : Graph} {k : Nat} (hk : g.nodes.length ≤ k) : sp g k = false := by
  unfold sp
  rw [List.getD_eq_getElem?_getD, List.getElem?_eq_none hk]; rfl

theorem nonspecial_cases {g : Graph} {n M J : Nat} {S : List NodeKind} (hn : g.nodes = shapeL n M J S)
    (hS : ∀ x ∈ S, isSpecial x = true) {k : Nat} (hk : k < g.nodes.length) (hsp : sp g k = false) :
    k < n ∨ (∃ m, m < M ∧ nodeIdOf g (.machine m) = k) ∨ (∃ j, j < J ∧ nodeIdOf g (.job j) = k) := by
  unfold sp at hsp
  unfold nodeIdOf
  rw [hn] at hk hsp ⊢
  rcases shape_cases n M J S (.operation 0) k hk with ⟨h, _⟩ | ⟨m, hm, _, h⟩ | ⟨j, hj, _, h⟩ | ⟨_, h⟩
  · exact Or.inl h
  · exact Or.inr (Or.inl ⟨m, hm, h⟩)
  · exact Or.inr (Or.inr ⟨j, hj, h⟩)
  · rw [hS _ h] at hsp; cases hsp

theorem specialSep_of_lt {g : Graph} {n M J : Nat} {S : List NodeKind} (hn : g.nodes = shapeL n M J S)
    (h : ∀ a e, e ∈ g.adj.getD a [] → a < n + M + J ∨ e.1 < n + M + J) : SpecialSep g := by
  intro a e he hs
  rcases h a e he with h1 | h1
  · rw [sp_false_of_lt hn h1] at hs; cases hs
  · exact sp_false_of_lt hn h1

/-- the node lists of the four built graphs: operations, machines, jobs, special nodes -/
theorem build_shapes (I : Instance) :
    (build .disjunctive I).nodes = shapeL (numOps I) 0 0 [.source, .sink] ∧
    (build .agentTask I).nodes = shapeL (numOps I) (numMachines I) 0 [] ∧
    (build .agentTaskJobs I).nodes = shapeL (numOps I) (numMachines I) I.length [] ∧
    (build .completeAgentTask I).nodes = shapeL (numOps I) (numMachines I) I.length [.global] := by
  obtain ⟨h1, h2, h3, h4⟩ := C16_nodes I
  rw [h1, h2, h3, h4]
  simp [shapeL]

theorem build_shape (b : Builder) (I : Instance) : ∃ M J S, (build b I).nodes = shapeL (numOps I) M J S ∧
    M ≤ numMachines I ∧ J ≤ I.length ∧ (∀ x ∈ S, isSpecial x = true) := by
  obtain ⟨h1, h2, h3, h4⟩ := build_shapes I
  cases b with
  | disjunctive => exact ⟨0, 0, [.source, .sink], h1, Nat.zero_le _, Nat.zero_le _, by decide⟩
  | agentTask => exact ⟨numMachines I, 0, [], h2, Nat.le_refl _, Nat.zero_le _, nofun⟩
  | agentTaskJobs => exact ⟨numMachines I, I.length, [], h3, Nat.le_refl _, Nat.le_refl _, nofun⟩
  | completeAgentTask => exact ⟨numMachines I, I.length, [.global], h4, Nat.le_refl _, Nat.le_refl _, by decide⟩

theorem sp_false_of_nil {g : Graph} {n M J : Nat} (hn : g.nodes = shapeL n M J []) (k : Nat) : sp g k = false := by
  by_cases hk : k < g.nodes.length
  · apply sp_false_of_lt hn
    rw [hn, shapeL_length] at hk; simpa using hk
  · exact sp_false_of_ge (by omega)

theorem specialSep_build (b : Builder) (I : Instance) : SpecialSep (build b I) := by
  cases b with
  | disjunctive =>
    have st := stage_disjunctive I
    have hn := (build_shapes I).1
    apply specialSep_of_lt hn
    intro a e he
    rcases (st.edges a e.1 e.2).1 he with ⟨x, hx, y, hy, _, h1, _, _⟩ | ⟨x, hx, _, _, h2, _⟩ |
      ⟨x, hx, _, h1, _, _⟩
    · left; rw [h1]; have := opId_lt hx; omega
    · right; rw [h2]; have := opId_lt hx; omega
    · left; rw [h1]; have := opId_lt hx; omega
  | agentTask => exact fun _ e _ _ => sp_false_of_nil (build_shapes I).2.1 e.1
  | agentTaskJobs => exact fun _ e _ _ => sp_false_of_nil (build_shapes I).2.2.1 e.1
  | completeAgentTask =>
    have st := stage_completeAgentTask I
    have hn := (build_shapes I).2.2.2
    apply specialSep_of_lt hn
    intro a e he
    obtain ⟨hs, _⟩ := (st.edges a e.1 e.2).1 he
    rcases hs with h | h | ⟨m, hm, (⟨_, h⟩ | ⟨h, _⟩)⟩ | ⟨j, hj, (⟨_, h⟩ | ⟨h, _⟩)⟩
    · have := opMachEdge_lt h; left; omega
    · have := opJobEdge_lt h; left; omega
    · right; omega
    · left; omega
    · right; omega
    · left; omega

theorem noIsoS_build (b : Builder) (I : Instance) (hne : I ≠ []) (hnj : NoEmptyJobG I) : NoIsoS (build b I) := by
  have hlen : 0 < I.length := List.length_pos_iff.2 hne
  have hL := hnj 0 hlen
  cases b with
  | disjunctive =>
    have st := stage_disjunctive I
    have hn := (build_shapes I).1
    intro k hp hs
    have hk : k < (build .disjunctive I).nodes.length := present_lt hp
    have hk2 : k < numOps I + 2 := by rw [hn, shapeL_length] at hk; simpa using hk
    have hk1 : ¬ k < numOps I := by
      intro h
      rw [sp_false_of_lt hn (by omega)] at hs; cases hs
    have h00 : ((0 : Nat), (0 : Nat)) ∈ allOps I := (mem_allOps_iff I 0 0).2 ⟨hlen, by omega⟩
    have hlast : ((0 : Nat), (I.getD 0 []).length - 1) ∈ allOps I := (mem_allOps_iff I 0 _).2 ⟨hlen, by omega⟩
    by_cases hks : k = numOps I
    · subst hks
      refine ⟨numOps I, (opId I (0, 0), .conjunctive), ⟨hp, ?_⟩, Or.inl rfl⟩
      exact (st.edges _ _ _).2 (Or.inr (Or.inl ⟨(0, 0), h00, rfl, rfl, rfl, rfl⟩))
    · have hk3 : k = numOps I + 1 := by omega
      subst hk3
      refine ⟨opId I (0, (I.getD 0 []).length - 1), (numOps I + 1, .conjunctive), ⟨?_, ?_⟩, Or.inr rfl⟩
      · apply present_of_noRemoved st.nr
        rw [st.nodes]
        have := opId_lt hlast
        simp only [List.length_append, List.length_map, List.length_range, List.length_cons, List.length_nil]; omega
      · refine (st.edges _ _ _).2 (Or.inr (Or.inr ⟨(0, (I.getD 0 []).length - 1), hlast, ?_, rfl, rfl, rfl⟩))
        rw [mem_allOps_iff]
        simp only
        omega
  | agentTask =>
    intro k _ hs
    rw [sp_false_of_nil (build_shapes I).2.1 k] at hs; cases hs
  | agentTaskJobs =>
    intro k _ hs
    rw [sp_false_of_nil (build_shapes I).2.2.1 k] at hs; cases hs
  | completeAgentTask =>
    have st := stage_completeAgentTask I
    have hn := (build_shapes I).2.2.2
    intro k hp hs
    have hk : k < (build .completeAgentTask I).nodes.length := present_lt hp
    have hk2 : k < numOps I + numMachines I + I.length + 1 := by rw [hn, shapeL_length] at hk; simpa using hk
    have hk1 : ¬ k < numOps I + numMachines I + I.length := by
      intro h
      rw [sp_false_of_lt hn h] at hs; cases hs
    have hks : k = numOps I + numMachines I + I.length := by omega
    subst hks
    refine ⟨_, (numOps I + numMachines I + 0, .untyped), ⟨hp, ?_⟩, Or.inl rfl⟩
    exact (st.edges _ _ _).2 ⟨Or.inr (Or.inr (Or.inr ⟨0, hlen, Or.inl ⟨rfl, rfl⟩⟩)), rfl⟩

/-- **the graph-level core**: operation, machine and job nodes all removed, no isolated special node, no edge between special nodes:
then every node is removed -/
theorem all_removed (I : Instance) (b : Builder) (g : Graph) (hg : GInv g) (hn : g.nodes = (build b I).nodes)
    (hiso : NoIsoS g) (hsep : SpecialSep g)
    (hops : ∀ k, k < numOps I → g.removed.getD k true = true)
    (hmach : ∀ m, m < numMachines I → g.removed.getD (nodeIdOf g (.machine m)) true = true)
    (hjob : ∀ j, j < I.length → g.removed.getD (nodeIdOf g (.job j)) true = true) :
    ∀ k, k < g.nodes.length → g.removed.getD k true = true := by
  obtain ⟨M, J, S, hsh, hM, hJ, hS⟩ := build_shape b I
  have hn' : g.nodes = shapeL (numOps I) M J S := hn.trans hsh
  have hnon : ∀ k, k < g.nodes.length → sp g k = false → g.removed.getD k true = true := by
    intro k hk hs
    rcases nonspecial_cases hn' hS hk hs with h | ⟨m, hm, h⟩ | ⟨j, hj, h⟩
    · exact hops k h
    · rw [← h]; exact hmach m (by omega)
    · rw [← h]; exact hjob j (by omega)
  intro k hk
  cases hsk : sp g k with
  | false => exact hnon k hk hsk
  | true =>
    cases hr : g.removed.getD k true with
    | true => rfl
    | false =>
      exfalso
      have hp : g.present k = true := present_iff_lt_and.2 ⟨hk, hr⟩
      obtain ⟨a, e, ⟨hpa, he⟩, hk'⟩ := hiso k hp hsk
      obtain ⟨hlte, hre⟩ := present_iff_lt_and.1 (hg.target a e he)
      obtain ⟨hlta, hra⟩ := present_iff_lt_and.1 hpa
      rcases hk' with rfl | rfl
      · rw [hnon e.1 hlte (hsep a e he hsk)] at hre; cases hre
      · cases hsa : sp g a with
        | false => rw [hnon a hlta hsa] at hra; cases hra
        | true =>
          rw [hsep a e he hsa] at hsk; cases hsk


theorem complete_facts (c : Cfg) (hv : Valid c.I) (evs : List Ev) (hcomp : isComplete c.I (run c evs) = true) :
    unscheduledPure c.I (run c evs) = [] ∧ ∀ r ∈ allOps c.I, r ∈ completedPure c (run c evs) := by
  have hC := (C01_complete_iff c hv evs).2.1 hcomp
  have hfin := C06_final c hv evs hcomp
  constructor
  · apply List.eq_nil_iff_forall_not_mem.2
    intro r hr
    obtain ⟨h1, h2⟩ := ((C05_scheduled_iff c hv evs r).2).1 hr
    obtain ⟨x, hx, hxj, hxp⟩ := hC r.1 r.2 h1
    exact h2 ⟨x, hx, by rw [hxj, hxp]⟩
  · intro r hr
    have hog : ongoingPure c (run c evs) = [] := by
      apply List.eq_nil_iff_forall_not_mem.2
      intro y hy
      obtain ⟨hy1, hy2⟩ := (C05_ongoing_iff c hv evs y).1 hy
      have := cinv_end_le_makespan (inv_run hv evs).cinv y hy1
      omega
    obtain ⟨x, hx, hxj, hxp⟩ := hC r.1 r.2 ((mem_allOps' _ _).1 hr)
    have hs : r ∈ scheduledPure c.I (run c evs) := ((C05_scheduled_iff c hv evs r).1).2 ⟨x, hx, by rw [hxj, hxp]⟩
    unfold completedPure
    simp only [hog, List.map_nil]
    exact (mem_sortRefs _ _ _).2 ⟨hr, List.mem_filter.2 ⟨hs, by simp⟩⟩

theorem init_not_complete {I : Instance} (hne : I ≠ []) (hnj : NoEmptyJobG I) : isComplete I (init I) = false := by
  have h1 : numOps I ≠ 0 := by
    cases I with
    | nil => exact absurd rfl hne
    | cons a t =>
      have := hnj 0 (by simp)
      simp only [List.getD_cons_zero] at this
      unfold numOps
      simp only [List.map_cons, List.sum_cons]
      omega
  unfold isComplete
  rw [numScheduled_init]
  cases h : (0 == numOps I) with
  | false => rfl
  | true => exact absurd (beq_iff_eq.1 h).symm h1

open RW

/-- what the last clause of C17 says about a residual observer, for the dispatcher state `s`: no special node is isolated, no edge
joins two special nodes, and with both options on a complete schedule leaves no node -/
structure GX (c : Cfg) (s : State) (o : FObs) : Prop where
  noiso : NoIsoS o.graph
  sep : SpecialSep o.graph
  done : isComplete c.I s = true → o.rmMach = true → o.rmJob = true →
    ∀ k, k < o.graph.nodes.length → o.graph.removed.getD k true = true

theorem gx_fresh {c : Cfg} (hne : c.I ≠ []) (hnj : NoEmptyJobG c.I) (b : Builder) (o : FObs) (h0 : o.graph0 = build b c.I)
    (hg : o.graph = o.graph0) : GX c (init c.I) o := by
  refine ⟨by rw [hg, h0]; exact noIsoS_build b c.I hne hnj, by rw [hg, h0]; exact specialSep_build b c.I, fun hc => ?_⟩
  rw [init_not_complete hne hnj] at hc; cases hc

/-- one update of the residual graph updater across an accepted dispatch, reading flags of the new state: if the new state is
complete, every operation is completed and every flag is 1, so every operation, machine and job node is removed, and with them
the special nodes (`all_removed`) -/
theorem gx_update {c : Cfg} (hv : Valid c.I) (hnj : NoEmptyJobG c.I) (hmu : AllMachinesUsed c.I) {s : State} (evs : List Ev)
    (heap : List FObs) (o : FObs) (hg : GInv o.graph) (gx : GX c s o)
    (g' : GraphOK c (run c evs) { o with graph := residualUpdate c (run c evs) heap o })
    (hfl : ReadsFlags c (run c evs) heap o) :
    GX c (run c evs) { o with graph := residualUpdate c (run c evs) heap o } := by
  have hiso := residualUpdate_pres NoIsoS noIsoS_removeIf c (run c evs) heap o gx.noiso
  have hsep := residualUpdate_pres SpecialSep specialSep_removeIf c (run c evs) heap o gx.sep
  refine ⟨hiso, hsep, fun hcomp hrm hrj => ?_⟩
  obtain ⟨fM, fJ⟩ := hfl (Or.inl hrm)
  obtain ⟨hu, hall⟩ := complete_facts c hv evs hcomp
  obtain ⟨b, hb, _⟩ := g'.built
  apply all_removed c.I b _ g'.ginv (g'.nodes.trans (congrArg Graph.nodes hb)) hiso hsep
  · intro k hk
    have : k ∈ (allOps c.I).map (opId c.I) := by rw [C14_ids]; exact List.mem_range.2 hk
    obtain ⟨r, hr, rfl⟩ := List.mem_map.1 this
    exact g'.compl r (hall r hr)
  · intro m hmlt
    apply residualUpdate_mach_removed c _ heap o hg hrm m
    rw [fM hrm]
    exact complMachSpec_eq_one.2 ⟨hmlt, by rw [hu]; rfl, hmu m hmlt⟩
  · intro j hjlt
    apply residualUpdate_job_removed c _ heap o hg hrj j
    rw [fJ hrj]
    exact complJobsSpec_eq_one.2 ⟨hjlt, by rw [hu]; rfl, hnj j hjlt⟩

end RC

/-- **C17 (complete schedule: nothing is left)**, under the filter hypothesis of `C17_world` (no filter, or positive durations).
With both removal options on, on an instance with at least one job (`hI`), without empty jobs and without unused machines: in every
reachable feature world whose schedule is complete, every node of the residual graph is removed. -/
theorem C17_complete_all_removed_gen (c : Cfg) (hv : Valid c.I) (hF : c.F = none ∨ PosDurI c.I) (hI : c.I ≠ [])
    (hne : NoEmptyJobG c.I) (hmu : AllMachinesUsed c.I) (w : FWorld) (hw : Reached c w)
    (hcomp : isComplete c.I w.s = true)
    (id : Nat) (o : FObs) (ho : w.heap[id]? = some o) (hk : o.kind = .residual)
    (hopt : o.rmMach = true ∧ o.rmJob = true) :
    ∀ k, k < o.graph.nodes.length → o.graph.removed.getD k true = true := by
  have g := RW.residual_run c hv hF (OK := fun s o => RW.GraphOK c s o ∧ RC.GX c s o)
    (fun b o h0 hg => ⟨RW.graphOK_fresh hv b o h0 hg, RC.gx_fresh hI hne b o h0 hg⟩)
    (fun evs' hs' hc hd heap o g hfl => by
      subst hs'
      have g' := RW.graphOK_update c hc.wf hd heap o g.1 hfl
      exact ⟨g', RC.gx_update hv hne hmu evs' heap o g.1.ginv g.2 g' hfl⟩) hw id o ho hk
  exact g.2.done hcomp hopt.1 hopt.2

/-- **C17 (complete schedule: nothing is left).**  The hypothesis `hI : c.I ≠ []` cannot be
dropped (`C17_complete_needs_a_job`): on the instance without jobs the disjunctive graph keeps source and sink, the complete
agent-task graph keeps its global node. -/
theorem C17_complete_all_removed (c : Cfg) (hv : Valid c.I) (hp : PosDurI c.I) (hI : c.I ≠ []) (hne : NoEmptyJobG c.I)
    (hmu : AllMachinesUsed c.I) (w : FWorld) (hw : Reached c w)
    (hcomp : isComplete c.I w.s = true)
    (id : Nat) (hid : id ∈ w.subs) (o : FObs) (ho : w.heap[id]? = some o) (hk : o.kind = .residual)
    (hopt : o.rmMach = true ∧ o.rmJob = true) :
    ∀ k, k < o.graph.nodes.length → o.graph.removed.getD k true = true := by
  have _ := hid
  exact C17_complete_all_removed_gen c hv (Or.inr hp) hI hne hmu w hw hcomp id o ho hk hopt

/-- the world of the counterexample: the empty instance, a residual updater of the disjunctive graph, both options on -/
def RC.ceWorld : FWorld := FWorld.run { I := [] } [.residual .disjunctive true true]

set_option maxRecDepth 100000 in
/-- **the statement without `c.I ≠ []` is false**: on the instance without jobs the schedule is complete from the start, and the
disjunctive graph's source and sink are never removed (`removed = [false, false]`) -/
theorem C17_complete_needs_a_job :
    ¬ ∀ (c : Cfg) (_ : Valid c.I) (_ : PosDurI c.I) (_ : NoEmptyJobG c.I) (_ : AllMachinesUsed c.I) (w : FWorld)
      (_ : Reached c w) (_ : isComplete c.I w.s = true) (id : Nat) (_ : id ∈ w.subs) (o : FObs) (_ : w.heap[id]? = some o)
      (_ : o.kind = .residual) (_ : o.rmMach = true ∧ o.rmJob = true),
      ∀ k, k < o.graph.nodes.length → o.graph.removed.getD k true = true := by
  intro H
  have hv : Valid ([] : Instance) := valid_of_validB (by decide +kernel)
  have hp : PosDurI ([] : Instance) := by intro j p op h; simp [getOp] at h
  have hne : NoEmptyJobG ([] : Instance) := by intro j hj; simp at hj
  have hmu : AllMachinesUsed ([] : Instance) := by intro m hm; simp [numMachines] at hm
  have hr : Reached { I := [] } RC.ceWorld :=
    ⟨[.residual .disjunctive true true], [], by decide +kernel, (by intro e he; simp at he; subst he; trivial),
      (by intro e he; cases he), rfl⟩
  have := H { I := [] } hv hp hne hmu RC.ceWorld hr (by decide +kernel) 3 (by decide +kernel)
    (RC.ceWorld.heap.getD 3 default) (by decide +kernel) (by decide +kernel) (by decide +kernel) 0 (by decide +kernel)
  revert this
  decide +kernel

set_option maxRecDepth 100000 in
/-- non-vacuity: the hypotheses hold for `posInstance`, and a reachable world with a complete schedule and a subscribed residual
updater with both options on exists (all its 10 nodes are removed) -/
example :
    let w := FWorld.run { I := posInstance } [.residual .completeAgentTask true true, .disp 0 0 (some 0), .disp 1 0 none,
      .disp 0 1 none, .disp 1 1 (some 0)]
    posInstance ≠ [] ∧ NoEmptyJobG posInstance ∧ AllMachinesUsed posInstance ∧ isComplete posInstance w.s = true ∧
      3 ∈ w.subs ∧ (w.heap[3]?.map fun o => (o.kind, o.rmMach, o.rmJob, o.graph.nodes.length, o.graph.removed.all id)) =
        some (.residual, true, true, 10, true) := by
  refine ⟨by decide +kernel, ?_, ?_, by decide +kernel⟩
  · intro j hj
    have : ∀ j, j < posInstance.length → (posInstance.getD j []).length ≠ 0 := by decide +kernel
    exact this j hj
  · intro m hm
    have : ∀ m, m < numMachines posInstance → machineUsed posInstance m = true := by decide +kernel
    exact this m hm

end JS
