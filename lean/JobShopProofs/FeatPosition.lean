import JobShopProofs.FeatureSpecs
/-!
# PositionInJobObserver and DurationObserver (operation level) against their specifications

The operation column of `PositionInJobObserver` satisfies `PosSpecOK` after `initialize_features` in the initial
state, and one `update` carries it across an accepted dispatch; the same for the operation column of `DurationObserver`
and `DurOpsOK` (the value of an *unscheduled* operation is its duration).
-/
namespace JS

theorem unscheduled_after_dispatch {I : Instance} {s s' : State} {j p m : Nat} {op : Op} (hwf : WF I s)
    (hd : DispSpec I s s' j p m op) {r : OpRef} (h : r ∈ unscheduledPure I s') :
    r ∈ unscheduledPure I s ∧ r ≠ (j, p) ∧
    (r.1 = j → p + 1 ≤ r.2 ∧ s'.jobIdx.getD r.1 0 = p + 1) ∧
    (r.1 ≠ j → s'.jobIdx.getD r.1 0 = s.jobIdx.getD r.1 0) := by
  obtain ⟨_, hji, _⟩ := dispSpec_vectors hwf hd
  rw [mem_unscheduledPure] at h ⊢
  obtain ⟨h1, h2⟩ := h
  rw [hji] at h2
  by_cases hr : r.1 = j
  · rw [if_pos hr] at h2
    refine ⟨⟨h1, ?_⟩, ?_, fun _ => ⟨h2, by rw [hji, if_pos hr]⟩, fun h => absurd hr h⟩
    · rw [hr, hd.hidx]; omega
    · intro he; rw [he] at h2; simp at h2; omega
  · rw [if_neg hr] at h2
    refine ⟨⟨h1, h2⟩, ?_, fun h => absurd h hr, fun _ => by rw [hji, if_neg hr]⟩
    intro he; rw [he] at hr; exact hr rfl

theorem positionInit_spec (c : Cfg) (o : FObs) (hw : o.WF) (hft : FT.operations ∈ o.fts)
    (hlen : (o.col .operations).length = numOps c.I) :
    PosSpecOK c.I (init c.I) ((positionInit c (init c.I) o).col .operations) ∧
    (positionInit c (init c.I) o).WF ∧ (positionInit c (init c.I) o).fts = o.fts := by
  have hhas : o.has .operations = true := has_iff.2 hft
  unfold positionInit
  simp only [hhas, ↓reduceIte]
  refine ⟨?_, hw.setCol _ _, rfl⟩
  rw [col_setCol_same o .operations _ (hw.has_col hft)]
  constructor
  · rw [foldl_length _ (fun l _ => setAt_length l _ _), hlen]
  · intro r hr
    have hra := mem_allOps_of_unscheduled hr
    simp only [posSpec, init_jobIdx_getD]
    rw [Int.natCast_zero, Int.sub_zero]
    apply foldl_setAt_getD (fun r : OpRef => opId c.I r) (fun r : OpRef => (r.2 : Int))
    · intro r' hr' he
      have := opId_inj (mem_allOps_of_unscheduled hr') hra he
      rw [this]
    · exact Or.inl ⟨r, hr, rfl⟩
    · rw [hlen]; exact opId_lt hra

theorem mem_zipIdx_range' {a n : Nat} {pk : Nat × Nat} :
    pk ∈ (List.range' a n).zipIdx ↔ pk.2 < n ∧ pk.1 = a + pk.2 := by
  rw [List.mem_zipIdx_iff_getElem?]
  constructor
  · intro h
    have hlt : pk.2 < n := by simpa using (List.getElem?_eq_some_iff.1 h).1
    rw [List.getElem?_range' hlt, Nat.one_mul] at h
    exact ⟨hlt, (Option.some.inj h).symm⟩
  · rintro ⟨hlt, he⟩
    rw [List.getElem?_range' hlt, he, Nat.one_mul]

/-- the later positions `q` of the dispatched job are renumbered `q - (p + 1)`; the other jobs are not written -/
theorem positionUpdate_spec (c : Cfg) {s s' : State} {j p m : Nat} {op : Op} (hwf : WF c.I s)
    (hd : DispSpec c.I s s' j p m op) (o : FObs) (hw : o.WF) (hft : FT.operations ∈ o.fts)
    (hspec : PosSpecOK c.I s (o.col .operations)) :
    PosSpecOK c.I s' ((positionUpdate c (newEntry s j p m op) o).col .operations) ∧
    (positionUpdate c (newEntry s j p m op) o).WF ∧ (positionUpdate c (newEntry s j p m op) o).fts = o.fts := by
  have hhas : o.has .operations = true := has_iff.2 hft
  unfold positionUpdate
  simp only [hhas, ↓reduceIte, newEntry]
  refine ⟨?_, hw.setCol _ _, rfl⟩
  rw [col_setCol_same o .operations _ (hw.has_col hft), List.range_eq_range', List.drop_range', Nat.zero_add, Nat.mul_one]
  obtain ⟨hlen, hval⟩ := hspec
  constructor
  · rw [foldl_length _ (fun l _ => setAt_length l _ _), hlen]
  · intro r hr
    obtain ⟨hrs, _, hsame, hother⟩ := unscheduled_after_dispatch hwf hd hr
    have hra := mem_allOps_of_unscheduled hr
    apply foldl_setAt_getD (fun pk : Nat × Nat => opId c.I (j, pk.1)) (fun pk => (pk.2 : Int))
    · intro pk hpk he
      obtain ⟨h1, h2⟩ := mem_zipIdx_range'.1 hpk
      have hpm : (j, pk.1) ∈ allOps c.I := by
        rw [mem_allOps', getD_length_of_getOp]
        show pk.1 < (c.I.getD j []).length
        omega
      obtain rfl := opId_inj hpm hra he
      rw [posSpec, (hsame rfl).2]
      show (pk.2 : Int) = (pk.1 : Int) - ((p + 1 : Nat) : Int)
      omega
    · by_cases hj : r.1 = j
      · refine Or.inl ⟨(r.2, r.2 - (p + 1)), mem_zipIdx_range'.2 ⟨?_, ?_⟩, by rw [← hj]⟩
        · have := getD_length_of_getOp.1 ((mem_unscheduledPure c.I s' r).1 hr).1
          have := (hsame hj).1
          show r.2 - (p + 1) < _
          rw [← hj]
          omega
        · have := (hsame hj).1
          show r.2 = p + 1 + (r.2 - (p + 1))
          omega
      · exact Or.inr (by rw [hval r hrs, posSpec, posSpec, hother hj])
    · rw [hlen]; exact opId_lt hra

theorem durationInit_ops (c : Cfg) (s : State) (o : FObs) (hw : o.WF) (hft : FT.operations ∈ o.fts) :
    DurOpsOK c.I s ((durationInit c s o).col .operations) := by
  rw [(durationInit_col c s o hw hft).1]
  simp only [durationInitCol]
  constructor
  · rw [List.length_map, length_allOps]
  · intro r hr
    have hra := mem_allOps_of_unscheduled hr
    rw [List.getD_eq_getElem?_getD, List.getElem?_map, allOps_getElem_opId hra]
    rfl

theorem durationUpdate_ops (c : Cfg) {s s' : State} {j p m : Nat} {op : Op} (hwf : WF c.I s)
    (hd : DispSpec c.I s s' j p m op) (o : FObs) (hw : o.WF) (hft : FT.operations ∈ o.fts)
    (hspec : DurOpsOK c.I s (o.col .operations)) :
    DurOpsOK c.I s' ((durationUpdate c s' (newEntry s j p m op) o).col .operations) := by
  rw [(durationUpdate_col c s' (newEntry s j p m op) o hw hft).1]
  simp only [durationUpdateCol, newEntry]
  obtain ⟨hlen, hval⟩ := hspec
  constructor
  · rw [setAt_length, hlen]
  · intro r hr
    obtain ⟨hrs, hne, _, _⟩ := unscheduled_after_dispatch hwf hd hr
    rw [getD_setAt, if_neg]
    · exact hval r hrs
    · intro hcon
      exact hne (opId_inj (mem_allOps_of_unscheduled hr) (mem_allOps_of_getOp hd.hop) hcon.1.symm)

end JS
