import JobShopProofs.HistoryWorld
/-!
# C20 on the whole feature world: the frames of an animation built from the recorded history

`C20_world_frames`: in every reachable feature world, the history a subscribed `HistoryObserver` recorded (what
`GanttChartCreator.create_gif/create_video` hand to `create_gantt_chart_frames`), replayed prefix by prefix and drawn by
`plot_gantt_chart` (`bars`), saved as `frame_<k>` and loaded back by the `(len(name), name)` sort: the `(k+1)`-th image
loaded is frame `k+1`, and it shows exactly the first `k+1` recorded operations.

Route: the replay of any list of triples from the fresh dispatcher satisfies the core invariant `CInv` (`cinv_replay`), so
every entry sits in the list of its own machine and `bars` is "one bar per entry of `sched.flatten`" (`bars_of_inList`);
`HistW.Faith` (from `C10_world_history_state`) turns membership in the replayed schedule into membership in the first
`k+1` recorded entries.
-/
namespace JS

theorem cinv_replay_step {I : Instance} (hv : Valid I) {s : State} (hc : CInv I s) (r : Nat × Nat × Nat) :
    CInv I (match dispatch I s r.1 r.2.1 r.2.2 with | .ok s' => s' | .error _ => s) := by
  cases hd : dispatch I s r.1 r.2.1 r.2.2 with
  | error e => exact hc
  | ok s' =>
    obtain ⟨op, hsp⟩ := dispatch_ok hd
    exact cinv_dispatch (hv _ _ op hsp.hop).2.2 hc hsp

theorem cinv_replay {I : Instance} (hv : Valid I) : ∀ (l : List (Nat × Nat × Nat)) (s : State), CInv I s →
    CInv I (replay I s l)
  | [], _, hc => hc
  | r :: t, s, hc => by
    show CInv I (replay I (match dispatch I s r.1 r.2.1 r.2.2 with | .ok s' => s' | .error _ => s) t)
    exact cinv_replay hv t _ (cinv_replay_step hv hc r)

theorem bars_replay_faith {I : Instance} (hv : Valid I) {l : List SOp} (hf : HistW.Faith I l) (k : Nat)
    (hk : k ≤ l.length) (b : Bar) :
    b ∈ bars (replay I (init I) ((triples l).take k)) ↔
      ∃ x ∈ l.take k, b = ⟨1 + 10 * x.machine, x.start, x.dur, x.job⟩ := by
  rw [bars_of_inList _ (cinv_replay hv _ _ (cinv_init I)).inList]
  have hp := hf k hk
  constructor
  · rintro ⟨x, hx, rfl⟩; exact ⟨x, hp.mem_iff.1 hx, rfl⟩
  · rintro ⟨x, hx, rfl⟩; exact ⟨x, hp.mem_iff.2 hx, rfl⟩

theorem bars_replay_faith_length {I : Instance} {l : List SOp} (hf : HistW.Faith I l) (k : Nat)
    (hk : k ≤ l.length) : (bars (replay I (init I) ((triples l).take k))).length = k := by
  have hp := (hf k hk).length_eq
  rw [List.length_take, Nat.min_eq_left hk, List.length_flatten] at hp
  rw [(C20_bars _).2, numScheduled]
  exact hp

/-- **C20 on the whole feature world.**  An animation built from the history a subscribed `HistoryObserver` recorded has one
frame per recorded operation; whatever order the directory listing returns the frame files in, the `(k+1)`-th image loaded
is frame `k+1`, and it shows exactly the first `k+1` recorded operations: one bar per operation, on its machine's row, from
its start, as long as its duration, coloured by its job. -/
theorem C20_world_frames (c : Cfg) (hv : Valid c.I) (hF : c.F = none ∨ PosDurI c.I) (w : FWorld) (hw : Reached c w)
    (id : Nat) (hid : id ∈ w.subs) (o : FObs) (ho : w.heap[id]? = some o) (hk : o.kind = .history)
    (listing : List Nat) (hl : listing.Perm ((List.range o.hist.length).map (· + 1))) (k : Nat) (hk' : k < o.hist.length) :
    (loadOrder listing)[k]? = some (k + 1) ∧
    ∀ b : Bar, b ∈ bars (replay c.I (init c.I) ((triples o.hist).take (k + 1))) ↔
      ∃ x ∈ o.hist.take (k + 1), b = ⟨1 + 10 * x.machine, x.start, x.dur, x.job⟩ := by
  have _ := hid
  obtain ⟨_, hf⟩ := C10_world_history_state c hv hF w hw id o ho hk
  refine ⟨?_, fun b => bars_replay_faith hv hf (k + 1) (by omega) b⟩
  rw [C20_load_order o.hist.length listing hl]
  simp [hk']

/-- the frame also has exactly `k+1` bars (so no bar is drawn twice) -/
theorem C20_world_frames_count (c : Cfg) (hv : Valid c.I) (hF : c.F = none ∨ PosDurI c.I) (w : FWorld) (hw : Reached c w)
    (id : Nat) (o : FObs) (ho : w.heap[id]? = some o) (hk : o.kind = .history) (k : Nat) (hk' : k < o.hist.length) :
    (bars (replay c.I (init c.I) ((triples o.hist).take (k + 1)))).length = k + 1 := by
  obtain ⟨_, hf⟩ := C10_world_history_state c hv hF w hw id o ho hk
  exact bars_replay_faith_length hf (k + 1) (by omega)

end JS
