import JobShopProofs.Properties.C11World
/-!
# Attaching an observer at any time leaves every existing observer as it is (C11 / C05)

A constructor event (`construct`, `composite`, `residual`) may be issued in ANY dispatcher state, also in the middle of an episode.
The late-comer obtains its helper observers through `create_or_get_observer`: it READS a helper it finds among the subscribers, or
pushes a new one at the end of the heap; the only entries it writes are the ones it has just pushed.  Everything here rests on
`step_ctor` (`WorldEdits.lean`): what any constructor event does in any dispatcher state.
-/
namespace JS

theorem FEv.isCtor_ne {e : FEv} (he : e.isCtor = true) : (∀ j p m, e ≠ .disp j p m) ∧ e ≠ .reset := by
  constructor
  · rintro j p m rfl; cases he
  · rintro rfl; cases he

/-- (1) a constructor event never writes to an existing heap entry (whatever the dispatcher state, whoever is subscribed) -/
theorem C11_attach_leaves_others (w : FWorld) (e : FEv) (he : e.isCtor = true) (k : Nat) (o : FObs) (ho : w.heap[k]? = some o) :
    (w.step e).heap[k]? = some o :=
  (step_ctor w e (FEv.isCtor_ne he).1 (FEv.isCtor_ne he).2).2.2.2.2.1 k o ho

/-- (2) … keeps the subscriber list as a prefix, the configuration and the dispatcher state -/
theorem C11_attach_frame (w : FWorld) (e : FEv) (he : e.isCtor = true) :
    (∃ t, (w.step e).subs = w.subs ++ t) ∧ (w.step e).cfg = w.cfg ∧ (w.step e).s = w.s := by
  obtain ⟨hc, hs, _, hsubs, _⟩ := step_ctor w e (FEv.isCtor_ne he).1 (FEv.isCtor_ne he).2
  exact ⟨⟨_, hsubs⟩, hc, hs⟩

/-- (1), (2) for any number of attachments in a row -/
theorem C11_attach_many (w : FWorld) (late : List FEv) (hl : ∀ e ∈ late, e.isCtor = true) :
    (∀ (k : Nat) (o : FObs), w.heap[k]? = some o → (late.foldl FWorld.step w).heap[k]? = some o) ∧
    (∃ t, (late.foldl FWorld.step w).subs = w.subs ++ t) ∧ (late.foldl FWorld.step w).cfg = w.cfg ∧
    (late.foldl FWorld.step w).s = w.s := by
  induction late generalizing w with
  | nil => exact ⟨fun _ _ h => h, ⟨[], (List.append_nil _).symm⟩, rfl, rfl⟩
  | cons e t ih =>
    have he := hl e (List.mem_cons_self ..)
    obtain ⟨⟨u, hu⟩, hc, hs⟩ := C11_attach_frame w e he
    obtain ⟨i1, ⟨v, hv⟩, i3, i4⟩ := ih (w.step e) (fun x hx => hl x (List.mem_cons_of_mem _ hx))
    exact ⟨fun k o ho => i1 k o (C11_attach_leaves_others w e he k o ho), ⟨u ++ v, by rw [List.foldl_cons, hv, hu, List.append_assoc]⟩,
      i3.trans hc, i4.trans hs⟩

/-- (3) hence every observer that reported the right values before the attachment reports the right values after it: in a
reachable feature world (observers built on the fresh dispatcher, any history), after attaching anything at all, every EARLIER
subscriber still satisfies `ObsVal` for the (unchanged) current state -/
theorem C11_world_attach (c : Cfg) (hv : Valid c.I) (hF : c.F = none ∨ PosDurI c.I) (w : FWorld) (hw : Reached c w)
    (late : List FEv) (hl : ∀ e ∈ late, e.isCtor = true) :
    let w' := late.foldl FWorld.step w
    w'.s = w.s ∧ ∀ id ∈ w.subs, ∀ o, w.heap[id]? = some o → w'.heap[id]? = some o ∧ id ∈ w'.subs ∧ ObsVal c w'.s o := by
  intro w'
  obtain ⟨keep, ⟨t, ht⟩, _, hs⟩ := C11_attach_many w late hl
  refine ⟨hs, fun id hid o ho => ⟨keep id o ho, ?_, ?_⟩⟩
  · show id ∈ (late.foldl FWorld.step w).subs
    rw [ht]; exact List.mem_append_left _ hid
  · show ObsVal c (late.foldl FWorld.step w).s o
    rw [hs]; exact C11_world c hv hF w hw id hid o ho

/-! non-vacuity, on `c11Instance`: `remainingOps` (0; it creates `unscheduled`, 1) and `isReady` (2) are built on the fresh
dispatcher, two dispatches are accepted; THEN an `isCompleted` observer (3; it finds the `remainingOps` helper 0 and only reads it,
at its CURRENT counts), a residual updater (4) and a composite (5) are attached. -/
set_option maxRecDepth 100000 in
example :
    let w := FWorld.run { I := c11Instance }
      [.construct .remainingOps none, .construct .isReady none, .disp 0 0 (some 1), .disp 1 0 none]
    let late : List FEv := [.construct .isCompleted none, .residual .agentTask true true, .composite none]
    let w' := late.foldl FWorld.step w
    w.subs = [0, 1, 2] ∧ (w.heap.map (·.kind)) = [.remainingOps, .unscheduled, .isReady] ∧ numScheduled w.s = 2 ∧
    w'.heap[0]? = w.heap[0]? ∧ w'.heap[1]? = w.heap[1]? ∧ w'.heap[2]? = w.heap[2]? ∧
    w'.subs = [0, 1, 2, 3, 4, 5] ∧ w'.s = w.s ∧
    (w'.heap.map (·.kind)) = [.remainingOps, .unscheduled, .isReady, .isCompleted, .residual, .composite] ∧
    -- the helper the new `isCompleted` obtains is the existing `remainingOps` observer 0
    w.findObs .remainingOps [.machines, .jobs] = some 0 ∧
    ((w.step (.construct .isCompleted none)).getRemaining [.machines, .jobs]).2 = 0 ∧
    (w'.heap[3]?.map fun o => (o.remJob, o.remMach)) = (w.heap[0]?.map fun o => (o.col .jobs, o.col .machines)) ∧
    (w'.heap[0]?.map fun o => o.col .jobs) = some [1, 2] ∧
    -- the updater records the late `isCompleted`, the composite all feature observers
    (w'.heap[4]?.map (·.parts)) = some [3] ∧ (w'.heap[5]?.map (·.parts)) = some [0, 2, 3] := by decide +kernel

/-! the world before the attachments is one `C11_world_attach` speaks about -/
example : Reached { I := c11Instance } (FWorld.run { I := c11Instance }
    [.construct .remainingOps none, .construct .isReady none, .disp 0 0 (some 1), .disp 1 0 none]) :=
  ⟨[.construct .remainingOps none, .construct .isReady none], [.disp 0 0 (some 1), .disp 1 0 none], by decide +kernel,
    by intro e he; simp only [List.mem_cons, List.not_mem_nil, or_false] at he
       rcases he with rfl | rfl <;> simp [FEv.NodupFts],
    by decide +kernel, rfl⟩

end JS
