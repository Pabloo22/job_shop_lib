import JobShopProofs.EnvOptimum
import JobShopProofs.LateReward
import JobShopProofs.EnvEpisodes
import JobShopProofs.MultiEnvFits
/-!
# The multi-instance environment: the reward clauses of C13 / C18 and the action-space clause of C18

`MultiEnv` draws a new instance from the generator at every `reset` and builds a NEW episode environment with
`Env.make`.  Whatever the history (resets onto new instances, steps, legal or not):

* `C13_multi_env` — the reward observer the environment reads satisfies C13's identities for the current episode;
* `C18_multi_step_reward` — the reward an accepted step returns is the one entry the observer's list grew by;
* `C18_multi_legal_action_classic` — every legal decision belongs to the action space declared at construction.

(1) needs the generated instances to be valid (`Valid`: non-empty duplicate-free machine lists, non-negative durations).
The generator's shape theorem gives this when `0 ≤ p.durRange.1` (an added hypothesis: without it (1) is false, see the
counterexample at the end of the file) and the machine lists are non-empty (`p.mpo.2 > 1 → 1 ≤ p.mpo.1`; automatic for
`Classic p`; `C13_multi_env_general` assumes only this instead of `Classic p`).  (2) needs no hypothesis on the generator at
all.  (3) is about the declared spaces and needs `Classic p`.
-/
namespace JS

theorem Env.runEvs_reached {c : Cfg} {ec : EnvCfg} {e0 : Env} (hf : FeatsOK ec.feats) (hmk : Env.make c ec = some e0)
    (evs : List EnvEv) : Reached c (e0.runEvs evs).w := by
  obtain ⟨ctors, hok, hw⟩ := Env.make_is_run hf hmk
  obtain ⟨hct, hnd⟩ := ctorsOK_flags ctors _ hok
  obtain ⟨fevs, hev, heq⟩ := Env.runEvs_world evs e0
  refine ⟨ctors, fevs, hct, hnd, hev, ?_⟩
  rw [heq, FWorld.run_append, ← hw]

/-- **C13 for an episode environment**: after any steps and resets the reward observer the environment reads is subscribed,
of the configured kind, and satisfies the identities of C13 -/
theorem C13_env {c : Cfg} {ec : EnvCfg} {e0 : Env} (hv : Valid c.I) (hF : c.F = none ∨ PosDurI c.I) (hf : FeatsOK ec.feats)
    (hmk : Env.make c ec = some e0) (evs : List EnvEv) :
    let e := e0.runEvs evs
    ∃ o, e.w.heap[e.rew]? = some o ∧ e.rew ∈ e.w.subs ∧ o.kind = ec.reward ∧
      (∀ r ∈ o.rewards, r ≤ 0) ∧ o.rewards.length = numScheduled e.w.s ∧
      (ec.reward = .makespanReward → o.rewards.sum = - makespan e.w.s) ∧
      (ec.reward = .idleReward → o.rewards.sum = - idleTotal e.w.s) := by
  intro e
  have hr : EnvReach c ec e0 e := Env.runEvs_reach hf hmk evs
  obtain ⟨o, ho, hk⟩ := hr.rewKind
  obtain ⟨hm, hi⟩ := C13_world c hv hF e.w (Env.runEvs_reached hf hmk evs) e.rew hr.rewSub o ho
  have hall : (∀ r ∈ o.rewards, r ≤ 0) ∧ o.rewards.length = numScheduled e.w.s := by
    rcases hr.isRew with h | h
    · exact (hm (hk.trans h)).2.2
    · exact (hi (hk.trans h)).2
  exact ⟨o, ho, hr.rewSub, hk, hall.1, hall.2, fun h => (hm (hk.trans h)).1, fun h => (hi (hk.trans h)).1⟩

/-- every operation of the instance has the shape the generator gives its operations -/
def GenOK (p : GenParams) (I : Instance) : Prop := ∃ nm, ∀ job ∈ I, ∀ op ∈ job, OpShape p nm op

theorem GenOK.valid {p : GenParams} {I : Instance} (h : GenOK p I) (hdur : 0 ≤ p.durRange.1)
    (hmpo : p.mpo.2 > 1 → 1 ≤ p.mpo.1) : Valid I := by
  obtain ⟨nm, h⟩ := h
  intro j q op hop
  obtain ⟨job, hj, ho⟩ := mem_of_getOp hop
  have sh := h job hj op ho
  refine ⟨?_, sh.nodup, by have := sh.dur.1; omega⟩
  intro hnil
  have hc := sh.count
  rw [hnil] at hc
  by_cases hk : p.mpo.2 > 1
  · rw [if_pos hk] at hc
    have := hmpo hk
    simp only [List.length_nil] at hc
    omega
  · rw [if_neg hk] at hc
    simp at hc

theorem GenOK.posDur {p : GenParams} {I : Instance} (h : GenOK p I) (hdur : 1 ≤ p.durRange.1) : PosDurI I := by
  obtain ⟨nm, h⟩ := h
  intro j q op hop
  obtain ⟨job, hj, ho⟩ := mem_of_getOp hop
  have := (h job hj op ho).dur.1
  omega

theorem generateFixed_genOK {p : GenParams} {nj nm : Nat} {draws : List Nat} {I : Instance} {n : Nat} {d : List Nat}
    (h : generateFixed p nj nm draws = .ok (I, n, d)) : GenOK p I :=
  ⟨nm, fun job hj => ((genJobs_spec p nm nj draws I d (MF.generateFixed_ok h)).2 job hj).2.1⟩

theorem next_genOK {p : GenParams} {g g' : GenState} {I : Instance} {n : Nat} (h : g.next p = .ok (I, n, g')) :
    GenOK p I := by
  obtain ⟨nm, d, hg, _, _⟩ := GenState.next_ok h
  exact ⟨nm, fun job hj => ((C19_shape p g.draws I nm d hg).2.2.2.2.2 job hj).2.1⟩

theorem genOK_minv {p : GenParams} {ec : EnvCfg} {F : FilterCfg} {draws : List Nat} {m0 : MultiEnv} (hf : FeatsOK ec.feats)
    (hmk : MultiEnv.make p ec F draws = some m0) (evs : List MEv) : MF.MInv (GenOK p) p ec F m0.space (m0.run evs) := by
  obtain ⟨_, _, _, _, _, hinv0⟩ := MF.make_minv (P := GenOK p) (fun _ _ _ h => generateFixed_genOK h) hmk
  exact MF.minv_run (fun _ _ _ _ h => next_genOK h) hf evs m0 hinv0

theorem classic_mpo {p : GenParams} (hcl : Classic p) : p.mpo.2 > 1 → 1 ≤ p.mpo.1 := by
  intro h
  have : p.mpo.2 = 1 := by rw [hcl.2]
  omega

/-- **C13 in the multi-instance environment (any generator producing valid instances).** -/
theorem C13_multi_env_general (p : GenParams) (ec : EnvCfg) (F : FilterCfg) (draws : List Nat) (m0 : MultiEnv)
    (hf : FeatsOK ec.feats) (hdur : 0 ≤ p.durRange.1) (hmpo : p.mpo.2 > 1 → 1 ≤ p.mpo.1)
    (hF : F = none ∨ 1 ≤ p.durRange.1)
    (hmk : MultiEnv.make p ec F draws = some m0) (evs : List MEv) :
    let m := m0.run evs
    ∃ o, m.env.w.heap[m.env.rew]? = some o ∧ m.env.rew ∈ m.env.w.subs ∧ o.kind = ec.reward ∧
      (∀ r ∈ o.rewards, r ≤ 0) ∧ o.rewards.length = numScheduled m.env.w.s ∧
      (ec.reward = .makespanReward → o.rewards.sum = - makespan m.env.w.s) ∧
      (ec.reward = .idleReward → o.rewards.sum = - idleTotal m.env.w.s) := by
  obtain ⟨I, e0, evs', hg, hmke, he⟩ := (genOK_minv hf hmk evs).env
  simp only
  rw [he]
  exact C13_env (c := { I := I, F := F }) (hg.valid hdur hmpo) (hF.imp id hg.posDur) hf hmke evs'

/-- **(1) C13 in the multi-instance environment**: at any moment of any history (any resets onto new instances, any steps,
legal or not) the reward observer the environment reads satisfies the property's identities for the CURRENT episode: one
non-positive reward per dispatch of the episode, summing to minus the makespan (makespan reward) or minus the idle time
(idle-time reward).  (`hdur`: the generator's durations are non-negative, so that the generated instances are valid.) -/
theorem C13_multi_env (p : GenParams) (ec : EnvCfg) (F : FilterCfg) (draws : List Nat) (m0 : MultiEnv)
    (hf : FeatsOK ec.feats) (hcl : Classic p) (hdur : 0 ≤ p.durRange.1) (hF : F = none ∨ 1 ≤ p.durRange.1)
    (hmk : MultiEnv.make p ec F draws = some m0) (evs : List MEv) :
    let m := m0.run evs
    ∃ o, m.env.w.heap[m.env.rew]? = some o ∧ m.env.rew ∈ m.env.w.subs ∧ o.kind = ec.reward ∧
      (∀ r ∈ o.rewards, r ≤ 0) ∧ o.rewards.length = numScheduled m.env.w.s ∧
      (ec.reward = .makespanReward → o.rewards.sum = - makespan m.env.w.s) ∧
      (ec.reward = .idleReward → o.rewards.sum = - idleTotal m.env.w.s) :=
  C13_multi_env_general p ec F draws m0 hf hdur (classic_mpo hcl) hF hmk evs

theorem MultiEnv.step_ok_env {m : MultiEnv} {job : Nat} {machine : Int} {obs : EObs} {r : Int} {d t : Bool}
    {av : List OpRef} (h : (m.step job machine).2 = .ok obs r d t av) :
    ∃ obs', (m.env.step job machine).2 = .ok obs' r d t av := by
  unfold MultiEnv.step at h
  rcases hs : m.env.step job machine with ⟨env', out⟩
  rw [hs] at h
  cases out with
  | raised => cases h
  | ok obs' r' d' t' av' =>
    simp only at h
    split at h
    · split at h
      · cases h
      · cases h
        exact ⟨_, rfl⟩
    · cases h
      exact ⟨_, rfl⟩

/-- **(2)** the reward a multi-environment step returns is the reward emitted for THAT step: the list of the reward observer
the environment reads grew by exactly that entry.  No hypothesis on the generator is needed. -/
theorem C18_multi_step_reward (p : GenParams) (ec : EnvCfg) (F : FilterCfg) (draws : List Nat) (m0 : MultiEnv)
    (hf : FeatsOK ec.feats) (hmk : MultiEnv.make p ec F draws = some m0) (evs : List MEv)
    (job : Nat) (machine : Int) (obs : EObs) (r : Int) (d t : Bool) (av : List OpRef)
    (h : ((m0.run evs).step job machine).2 = .ok obs r d t av) :
    let m := m0.run evs
    ∃ o o', m.env.w.heap[m.env.rew]? = some o ∧ (m.step job machine).1.env.w.heap[m.env.rew]? = some o' ∧
      o'.rewards = o.rewards ++ [r] := by
  obtain ⟨I, e0, evs', _, hmke, he⟩ := (genOK_minv hf hmk evs).env
  obtain ⟨obs', hs⟩ := MultiEnv.step_ok_env h
  simp only
  rw [MF.step_fst, he, (Env.runEvs_reach hf hmke evs').rew]
  rw [he] at hs
  exact C18_step_reward_reachable' { I := I, F := F } ec e0 hf hmke evs' job machine obs' r d t av hs

/-- (2) under the hypotheses of (1) and (3); `_hcl` is not used: see `C18_multi_step_reward` -/
theorem C18_multi_step_reward_classic (p : GenParams) (ec : EnvCfg) (F : FilterCfg) (draws : List Nat) (m0 : MultiEnv)
    (hf : FeatsOK ec.feats) (_hcl : Classic p) (hmk : MultiEnv.make p ec F draws = some m0) (evs : List MEv)
    (job : Nat) (machine : Int) (obs : EObs) (r : Int) (d t : Bool) (av : List OpRef)
    (h : ((m0.run evs).step job machine).2 = .ok obs r d t av) :
    let m := m0.run evs
    ∃ o o', m.env.w.heap[m.env.rew]? = some o ∧ (m.step job machine).1.env.w.heap[m.env.rew]? = some o' ∧
      o'.rewards = o.rewards ++ [r] :=
  C18_multi_step_reward p ec F draws m0 hf hmk evs job machine obs r d t av h

/-- **(3)** every legal decision of every episode belongs to the action space declared at construction (classic
generators) -/
theorem C18_multi_legal_action_classic (p : GenParams) (ec : EnvCfg) (F : FilterCfg) (draws : List Nat) (m0 : MultiEnv)
    (hf : FeatsOK ec.feats) (hcl : Classic p) (hmk : MultiEnv.make p ec F draws = some m0) (evs : List MEv)
    (job : Nat) (machine : Int) (hleg : (m0.run evs).env.legal job machine = true) :
    m0.space.containsAction job machine = true := by
  obtain ⟨I0, hr0, hsp0, hinv⟩ := MF.classic_minv hcl hf hmk evs
  obtain ⟨I, e0, evs', ⟨J, M, hr, hJ, hM⟩, hmke, he⟩ := hinv.env
  rw [he] at hleg
  have hin := C18_legal_action_in_space { I := I, F := F } ec e0 hf hmke evs' job machine hleg
  rw [MF.make_space hf hmke] at hin
  rw [hsp0]
  have hjobs : I.length ≤ I0.length := by rw [hr.len, hr0.len]; exact hJ
  have hmach : numMachines I ≤ numMachines I0 := by rw [hr.numMachines_eq, hr0.numMachines_eq]; exact MF.kOf_mono hJ hM
  simp only [Space.containsAction, MF.spaceOf, Bool.and_eq_true, decide_eq_true_eq] at hin ⊢
  exact ⟨⟨⟨hin.1.1.1, decide_eq_true (Int.lt_of_lt_of_le (of_decide_eq_true hin.1.1.2) (Int.ofNat_le.2 hjobs))⟩, hin.1.2⟩,
    decide_eq_true (Int.lt_of_lt_of_le (of_decide_eq_true hin.2) (Int.ofNat_le.2 hmach))⟩

/-! non-vacuity: a classic generator with positive durations, two accepted configurations (makespan reward behind the dominated
filter; idle-time reward without a filter), a constructed multi environment; an episode on a freshly generated 2 × 2 instance with
an illegal step in the middle, then a reset onto a new 2 × 1 instance and a step of the new episode: the reward list the
environment reads and the state's makespan / idle time / number of dispatches are the values computed with `#eval` -/
set_option maxRecDepth 100000 in
example :
    let p : GenParams := { jobsRange := (1, 2), machinesRange := (1, 2), durRange := (1, 9) }
    let ec : EnvCfg := { builder := .disjunctive, feats := [(.isReady, none), (.duration, some [.machines, .operations])] }
    let ec' : EnvCfg := { builder := .disjunctive, feats := [(.isReady, none)], reward := .idleReward }
    let draws : List Nat := [5, 3, 7, 1, 2, 9, 0, 4, 1, 1, 2, 0, 4, 0, 6, 1, 1, 0, 1, 0, 3, 0, 5, 0]
    let ep1 : List MEv := [.reset, .step 0 (-1), .step 1 (-1), .step 5 0, .step 0 1, .step 1 0]
    let view : MultiEnv → Instance × List Int × Int × Int × Nat := fun m =>
      (m.env.w.cfg.I, (m.env.w.heap.getD m.env.rew default).rewards, makespan m.env.w.s, idleTotal m.env.w.s,
        numScheduled m.env.w.s)
    Classic p ∧ (0 : Int) ≤ p.durRange.1 ∧ (1 : Int) ≤ p.durRange.1 ∧ FeatsOK ec.feats ∧ FeatsOK ec'.feats ∧
    ((MultiEnv.make p ec (some [.dominated]) draws).map fun m => view (m.run ep1)) =
      some ([[⟨[0], 3⟩, ⟨[1], 5⟩], [⟨[1], 7⟩, ⟨[0], 2⟩]], [-3, -4, -5, 0], 12, 4, 4) ∧
    ((MultiEnv.make p ec (some [.dominated]) draws).map fun m => view (m.run (ep1 ++ [.reset, .step 1 (-1)]))) =
      some ([[⟨[0], 4⟩], [⟨[0], 6⟩]], [-6], 6, 0, 1) ∧
    ((MultiEnv.make p ec' none draws).map fun m => view (m.run ep1)) =
      some ([[⟨[0], 3⟩, ⟨[1], 5⟩], [⟨[1], 7⟩, ⟨[0], 2⟩]], [0, 0, 0, -4], 12, 4, 4) ∧
    ((MultiEnv.make p ec' none draws).map fun m => view (m.run (ep1 ++ [.reset, .step 1 (-1), .step 0 0]))) =
      some ([[⟨[0], 4⟩], [⟨[0], 6⟩]], [0, 0], 10, 0, 2) := by
  exact ⟨⟨rfl, rfl⟩, by decide, by decide, featsOK_of_all (by decide), featsOK_of_all (by decide), by decide +kernel,
    by decide +kernel, by decide +kernel, by decide +kernel⟩

/-! non-vacuity of (2) and (3) on the same history: the accepted step `(1, 0)` returns the reward `-4` that the idle-time observer
appended for it; the decision is legal and lies in the declared action space -/
set_option maxRecDepth 100000 in
example :
    let p : GenParams := { jobsRange := (1, 2), machinesRange := (1, 2), durRange := (1, 9) }
    let ec' : EnvCfg := { builder := .disjunctive, feats := [(.isReady, none)], reward := .idleReward }
    let draws : List Nat := [5, 3, 7, 1, 2, 9, 0, 4, 1, 1, 2, 0, 4, 0, 6, 1, 1, 0, 1, 0, 3, 0, 5, 0]
    ((MultiEnv.make p ec' none draws).map fun m0 =>
      let m := m0.run [.reset, .step 0 (-1), .step 1 (-1), .step 5 0, .step 0 1]
      ((match (m.step 1 0).2 with | .ok _ r _ _ _ => some r | .raised => none), m.env.legal 1 0,
        m0.space.containsAction 1 0, (m.env.w.heap.getD m.env.rew default).rewards,
        ((m.step 1 0).1.env.w.heap.getD m.env.rew default).rewards)) =
      some (some (-4), true, true, [0, 0, 0], [0, 0, 0, -4]) := by decide +kernel

/-! why (1) assumes `0 ≤ p.durRange.1`: a classic generator that may draw negative durations, no filter, makespan reward.  After
four accepted steps on the (maximum-size) first instance the observer's rewards sum to `-2` (it tracks the largest end time seen,
`2`), but the schedule's makespan — the largest end time of the machines' LAST operations — is `0`, because the last operation
of machine 1 has duration `-2`.  So the statement of (1) without that hypothesis is false. -/
set_option maxRecDepth 100000 in
example :
    let p : GenParams := { jobsRange := (2, 2), machinesRange := (2, 2), durRange := (-6, 2) }
    let ec : EnvCfg := { builder := .disjunctive, feats := [(.isReady, none)] }
    let draws : List Nat := [10, 0, 8, 1, 10, 4, 4, 10]
    Classic p ∧ FeatsOK ec.feats ∧ ec.reward = .makespanReward ∧
    ((MultiEnv.make p ec none draws).map fun m0 =>
      let m := m0.run [.step 0 (-1), .step 1 (-1), .step 0 (-1), .step 1 (-1)]
      (m.env.w.cfg.I, (m.env.w.heap.getD m.env.rew default).rewards, makespan m.env.w.s, numScheduled m.env.w.s)) =
      some ([[⟨[0], -5⟩, ⟨[1], 2⟩], [⟨[0], -5⟩, ⟨[1], -2⟩]], [0, 0, -2, 0], 0, 4) := by
  exact ⟨⟨rfl, rfl⟩, featsOK_of_all (by decide), rfl, by decide +kernel⟩

end JS
