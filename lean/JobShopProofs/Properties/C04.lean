import JobShopModel.Rules
import JobShopProofs.Properties.C07
/-!
# C04 — dispatching-rule solvers always finish and follow their rule
-/
namespace JS

theorem foldl_argmin_spec {α} (key : α → Int) (t : List α) : ∀ (a : α),
    (t.foldl (fun best x => if key x < key best then x else best) a = a ∨
      t.foldl (fun best x => if key x < key best then x else best) a ∈ t) ∧
    key (t.foldl (fun best x => if key x < key best then x else best) a) ≤ key a ∧
    ∀ b ∈ t, key (t.foldl (fun best x => if key x < key best then x else best) a) ≤ key b := by
  induction t with
  | nil => exact fun a => ⟨.inl rfl, Int.le_refl _, fun _ h => nomatch h⟩
  | cons x t ih =>
    intro a
    rw [List.foldl_cons]
    obtain ⟨h1, h2, h3⟩ := ih (if key x < key a then x else a)
    have hb : ((if key x < key a then x else a) = a ∨ (if key x < key a then x else a) = x) ∧
        key (if key x < key a then x else a) ≤ key a ∧ key (if key x < key a then x else a) ≤ key x := by
      split
      · exact ⟨.inr rfl, Int.le_of_lt ‹_›, Int.le_refl _⟩
      · exact ⟨.inl rfl, Int.le_refl _, Int.not_lt.1 ‹_›⟩
    refine ⟨?_, Int.le_trans h2 hb.2.1, fun b hb' => ?_⟩
    · rcases h1 with h1 | h1
      · exact hb.1.imp h1.trans (fun e => by rw [h1, e]; exact List.mem_cons_self)
      · exact .inr (List.mem_cons_of_mem _ h1)
    · rcases List.mem_cons.1 hb' with rfl | hb'
      · exact Int.le_trans h2 hb.2.2
      · exact h3 b hb'

theorem argminFirst_spec {α} (key : α → Int) (l : List α) (a : α) (h : argminFirst key l = some a) :
    a ∈ l ∧ ∀ b ∈ l, key a ≤ key b := by
  cases l with
  | nil => simp [argminFirst] at h
  | cons x t =>
    simp only [argminFirst, Option.some.injEq] at h
    obtain ⟨h1, h2, h3⟩ := foldl_argmin_spec key t x
    rw [h] at h1 h2 h3
    refine ⟨?_, ?_⟩
    · rcases h1 with h1 | h1
      · rw [h1]; simp
      · exact List.mem_cons_of_mem _ h1
    · intro b hb
      rcases List.mem_cons.1 hb with rfl | hb
      · exact h2
      · exact h3 b hb

theorem argmaxFirst_eq_argmin {α} (key : α → Int) (l : List α) :
    argmaxFirst key l = argminFirst (fun a => - key a) l := by
  cases l with
  | nil => rfl
  | cons x t =>
    simp only [argmaxFirst, argminFirst]
    congr 1
    induction t generalizing x with
    | nil => rfl
    | cons y t ih =>
      simp only [List.foldl_cons]
      have : (if key x < key y then y else x) = (if -key y < -key x then y else x) := by
        by_cases h : key x < key y
        · have h' : -key y < -key x := by omega
          simp [h, h']
        · have h' : ¬ (-key y < -key x) := by omega
          simp [h, h']
      rw [this]; exact ih _

theorem argmaxFirst_spec {α} (key : α → Int) (l : List α) (a : α) (h : argmaxFirst key l = some a) :
    a ∈ l ∧ ∀ b ∈ l, key b ≤ key a := by
  rw [argmaxFirst_eq_argmin] at h
  obtain ⟨h1, h2⟩ := argminFirst_spec _ l a h
  exact ⟨h1, fun b hb => by have := h2 b hb; omega⟩

theorem argminFirst_isSome {α} (key : α → Int) (l : List α) (h : l ≠ []) : (argminFirst key l).isSome := by
  cases l with
  | nil => exact absurd rfl h
  | cons _ _ => simp [argminFirst]

theorem argmaxFirst_isSome {α} (key : α → Int) (l : List α) (h : l ≠ []) : (argmaxFirst key l).isSome := by
  rw [argmaxFirst_eq_argmin]; exact argminFirst_isSome _ l h

theorem argmaxFirst_congr {α} (k1 k2 : α → Int) (l : List α) (h : ∀ a ∈ l, k1 a = k2 a) :
    argmaxFirst k1 l = argmaxFirst k2 l := by
  cases l with
  | nil => rfl
  | cons x t =>
    simp only [argmaxFirst]
    congr 1
    have hx := h x (by simp)
    have ht : ∀ a ∈ t, k1 a = k2 a := fun a ha => h a (by simp [ha])
    clear h
    -- the running best is always an element of the list
    have : ∀ (t : List α) (b : α), k1 b = k2 b → (∀ a ∈ t, k1 a = k2 a) →
        t.foldl (fun best x => if k1 best < k1 x then x else best) b =
        t.foldl (fun best x => if k2 best < k2 x then x else best) b := by
      intro t
      induction t with
      | nil => intros; rfl
      | cons y t ih =>
        intro b hb hall
        simp only [List.foldl_cons]
        have hy := hall y (by simp)
        rw [hb, hy]
        by_cases hlt : k2 b < k2 y
        · simp only [hlt, ↓reduceIte]; exact ih y hy (fun a ha => hall a (by simp [ha]))
        · simp only [hlt, ↓reduceIte]; exact ih b hb (fun a ha => hall a (by simp [ha]))
    exact this t x hx ht

theorem mem_insertSorted (x y : Nat) : ∀ (l : List Nat), y ∈ insertSorted x l ↔ y = x ∨ y ∈ l
  | [] => by simp [insertSorted]
  | z :: t => by
    unfold insertSorted
    split
    · simp
    · split
      · rename_i h; subst h; simp
      · simp only [List.mem_cons, mem_insertSorted x y t]
        exact or_left_comm

theorem mem_sortDedup (y : Nat) : ∀ (l : List Nat), y ∈ sortDedup l ↔ y ∈ l
  | [] => by simp [sortDedup]
  | x :: t => by
    have ih := mem_sortDedup y t
    simp only [sortDedup, List.foldr_cons] at ih ⊢
    rw [mem_insertSorted, ih]; simp

/-- the score vector of `r` is lexicographically at least that of `o` -/
def LexGe (c : Cfg) (s : State) : List ScoreFn → OpRef → OpRef → Prop
  | [], _, _ => True
  | f :: fs, r, o => score c s f o.1 < score c s f r.1 ∨ (score c s f o.1 = score c s f r.1 ∧ LexGe c s fs r o)

theorem tieBreakLoop_singleton (c : Cfg) (s : State) (a : OpRef) : ∀ fs : List ScoreFn, tieBreakLoop c s fs [a] = some a
  | [] => rfl
  | f :: fs => by simp [tieBreakLoop]

/-- The early exit on a single remaining candidate returns what the remaining scoring functions would: one round keeps
the candidates of the best score and goes on. -/
theorem tieBreakLoop_cons (c : Cfg) (s : State) (f : ScoreFn) (fs : List ScoreFn) {cands : List OpRef} {best : Int}
    (hb : (cands.map fun r => score c s f r.1).max? = some best) :
    tieBreakLoop c s (f :: fs) cands = tieBreakLoop c s fs (cands.filter fun r => score c s f r.1 == best) := by
  rw [tieBreakLoop, hb]
  simp only
  split
  · rename_i hlen
    obtain ⟨a, ha⟩ := List.length_eq_one_iff.1 (beq_iff_eq.1 hlen)
    rw [ha, tieBreakLoop_singleton]
    rfl
  · rfl

theorem tieBreakLoop_spec (c : Cfg) (s : State) (fs : List ScoreFn) : ∀ (cands : List OpRef),
    (cands ≠ [] → (tieBreakLoop c s fs cands).isSome) ∧
    ∀ r, tieBreakLoop c s fs cands = some r → r ∈ cands ∧ ∀ o ∈ cands, LexGe c s fs r o := by
  induction fs with
  | nil =>
    exact fun cands => ⟨fun h => by rw [tieBreakLoop, List.isSome_head?]; exact h,
      fun r hr => ⟨List.mem_of_mem_head? hr, fun _ _ => trivial⟩⟩
  | cons f fs ih =>
    intro cands
    cases hb : (cands.map fun r => score c s f r.1).max? with
    | none =>
      obtain rfl : cands = [] := List.map_eq_nil_iff.1 (List.max?_eq_none_iff.1 hb)
      exact ⟨fun h => absurd rfl h, fun r hr => nomatch hr⟩
    | some best =>
      obtain ⟨hbm, hble⟩ := List.max?_eq_some_iff.1 hb
      rw [tieBreakLoop_cons c s f fs hb]
      have hsub : ∀ x, x ∈ cands.filter (fun r => score c s f r.1 == best) ↔ x ∈ cands ∧ score c s f x.1 = best :=
        fun x => by rw [List.mem_filter, beq_iff_eq]
      obtain ⟨ih1, ih2⟩ := ih (cands.filter fun r => score c s f r.1 == best)
      refine ⟨fun _ => ih1 ?_, fun r hr => ?_⟩
      · obtain ⟨x, hx, hxe⟩ := List.mem_map.1 hbm
        exact List.ne_nil_of_mem ((hsub x).2 ⟨hx, hxe⟩)
      · obtain ⟨hr, hall⟩ := ih2 r hr
        obtain ⟨hrc, hrb⟩ := (hsub r).1 hr
        refine ⟨hrc, fun o ho => ?_⟩
        have hole : score c s f o.1 ≤ best := hble _ (List.mem_map.2 ⟨o, ho, rfl⟩)
        rw [LexGe, hrb]
        by_cases heq : score c s f o.1 = best
        · exact .inr ⟨heq, hall o ((hsub o).2 ⟨ho, heq⟩)⟩
        · exact .inl (Int.lt_iff_le_and_ne.2 ⟨hole, heq⟩)

/-- **C04 (selected operation is available).** Whatever the rule, the draw, the filter configuration and the
state, the operation a rule selects is one of the currently available operations. -/
theorem C04_selected_available (c : Cfg) (s : State) (rule : RuleKind) (draw : Nat) (r : OpRef)
    (h : selectOp c s rule draw = some r) : r ∈ availablePure c s := by
  cases rule with
  | spt => exact (argminFirst_spec _ _ r h).1
  | fcfs => exact (argminFirst_spec _ _ r h).1
  | mwkr => exact (argmaxFirst_spec _ _ r h).1
  | mor => exact (argmaxFirst_spec _ _ r h).1
  | random =>
    simp only [selectOp] at h
    split at h
    · cases h
    · exact List.mem_of_getElem? h
  | observerMwkr => exact (argmaxFirst_spec _ _ r h).1
  | scoreBased f => exact (argmaxFirst_spec _ _ r h).1
  | tieBreak fs => exact ((tieBreakLoop_spec c s fs _).2 r h).1

/-- **C04 (selected operation is best).** Each rule's selection is optimal for its documented criterion among
the available operations: shortest duration; lowest position in job; most remaining job work (total
duration of the job's unscheduled operations); most remaining job operations (the job's uncompleted
operations); highest score for score-based rules. -/
theorem C04_selected_best (c : Cfg) (s : State) (draw : Nat) (r : OpRef) :
    (selectOp c s .spt draw = some r → ∀ o ∈ availablePure c s, opDur c.I r ≤ opDur c.I o) ∧
    (selectOp c s .fcfs draw = some r → ∀ o ∈ availablePure c s, r.2 ≤ o.2) ∧
    (selectOp c s .mwkr draw = some r → ∀ o ∈ availablePure c s, remainingWork c.I s o.1 ≤ remainingWork c.I s r.1) ∧
    (selectOp c s .mor draw = some r → ∀ o ∈ availablePure c s, remainingOps c s o.1 ≤ remainingOps c s r.1) ∧
    (∀ f, selectOp c s (.scoreBased f) draw = some r → ∀ o ∈ availablePure c s, score c s f o.1 ≤ score c s f r.1) := by
  refine ⟨fun h => (argminFirst_spec _ _ r h).2, ?_, fun h => (argmaxFirst_spec _ _ r h).2,
    fun h => (argmaxFirst_spec _ _ r h).2, fun f h => (argmaxFirst_spec _ _ r h).2⟩
  intro h o ho
  have := (argminFirst_spec _ _ r h).2 o ho
  omega

/-- **C04 (direct = observer-based most-work-remaining).** In every state (any filter, any history) the
two rules select the same operation: on available operations the observer-based score (remaining work of
the job, zeroed for jobs that are not ready) equals the remaining work. -/
theorem C04_mwkr_agree (c : Cfg) (s : State) (d1 d2 : Nat) :
    selectOp c s .mwkr d1 = selectOp c s .observerMwkr d2 := by
  simp only [selectOp]
  apply argmaxFirst_congr
  intro r hr
  have : (availableJobsPure c s).contains r.1 = true := by
    simp only [List.contains_eq_mem, decide_eq_true_eq, availableJobsPure, mem_sortDedup]
    exact List.mem_map.2 ⟨r, hr, rfl⟩
  simp only [score, this, ↓reduceIte]

/-- **C04 (tie-breaker rule).** A rule composed of scoring functions with tie-breaking returns an available
operation whenever one exists … -/
theorem C04_tiebreak_available (c : Cfg) (s : State) (fs : List ScoreFn) (draw : Nat)
    (h : availablePure c s ≠ []) :
    ∃ r, selectOp c s (.tieBreak fs) draw = some r ∧ r ∈ availablePure c s := by
  obtain ⟨h1, h2⟩ := tieBreakLoop_spec c s fs (availablePure c s)
  obtain ⟨r, hr⟩ := Option.isSome_iff_exists.1 (h1 h)
  exact ⟨r, hr, (h2 r hr).1⟩

/-- … and that operation is lexicographically best under those scores. -/
theorem C04_tiebreak_lex (c : Cfg) (s : State) (fs : List ScoreFn) (draw : Nat) (r : OpRef)
    (h : selectOp c s (.tieBreak fs) draw = some r) : ∀ o ∈ availablePure c s, LexGe c s fs r o :=
  ((tieBreakLoop_spec c s fs _).2 r h).2

/-- **C04 (metadata).** With a monotone clock the recorded elapsed time is non-negative. -/
theorem C04_elapsed_nonneg (t0 t1 : Int) (h : t0 ≤ t1) : 0 ≤ elapsedTime t0 t1 := by
  unfold elapsedTime; omega

theorem dispatchReq_of_dispatch {I : Instance} {s s' : State} {j p m : Nat} (h : dispatch I s j p m = .ok s') :
    dispatchReq I s j p (some (m : Int)) = .ok s' := by
  obtain ⟨op, hd⟩ := dispatch_ok h
  unfold dispatchReq
  rw [hd.hop]
  simp only [hd.hidx, ne_eq, not_true_eq_false, ↓reduceIte, resolveMachine]
  have h0 : ¬ ((m : Int) < 0) := by omega
  simp only [h0, ↓reduceIte, Int.toNat_natCast, hd.hm]
  exact h

theorem run_snoc_dispatch {c : Cfg} {evs : List Ev} {s' : State} {j p m : Nat}
    (h : dispatch c.I (run c evs) j p m = .ok s') : run c (evs ++ [.disp j p (some (m : Int))]) = s' := by
  rw [run_snoc]
  simp only [stepEv, dispatchReq_of_dispatch h]

theorem cinv_numScheduled_le {I : Instance} {s : State} (hc : CInv I s) : numScheduled s ≤ numOps I := by
  have hf := feasible_of_cinv hc
  have hsub : (s.sched.flatten.map fun x => (x.job, x.pos)) ⊆ allOps I := by
    intro r hr
    simp only [List.mem_map] at hr
    obtain ⟨x, hx, rfl⟩ := hr
    obtain ⟨op, hop, _⟩ := hf.isOp x hx
    exact (mem_allOps' I _).2 (by simp [hop])
  have := (List.subperm_of_subset hf.once hsub).length_le
  rw [List.length_map, length_allOps] at this
  rw [numScheduled_eq]; exact this

theorem lt_numOps_of_incomplete {I : Instance} {s : State} (hc : CInv I s) (h : isComplete I s = false) :
    numScheduled s < numOps I := by
  have hle := cinv_numScheduled_le hc
  have hne : numScheduled s ≠ numOps I := by simpa [isComplete] using h
  omega

theorem selectOp_isSome (c : Cfg) (s : State) (rule : RuleKind) (draw : Nat) (h : availablePure c s ≠ []) :
    (selectOp c s rule draw).isSome := by
  cases rule with
  | spt => exact argminFirst_isSome _ _ h
  | fcfs => exact argminFirst_isSome _ _ h
  | mwkr => exact argmaxFirst_isSome _ _ h
  | mor => exact argmaxFirst_isSome _ _ h
  | random =>
    simp only [selectOp]
    have hlen : 0 < (availablePure c s).length := List.length_pos_iff.2 h
    have : ¬ (availablePure c s).isEmpty = true := by simpa using h
    simp only [this, Bool.false_eq_true, ↓reduceIte]
    have hlt : draw % (availablePure c s).length < (availablePure c s).length := Nat.mod_lt _ hlen
    simp [List.getElem?_eq_getElem hlt]
  | observerMwkr => exact argmaxFirst_isSome _ _ h
  | scoreBased f => exact argmaxFirst_isSome _ _ h
  | tieBreak fs => exact (tieBreakLoop_spec c s fs _).1 h

theorem solverStep_ok (c : Cfg) (hv : Valid c.I) (rule : RuleKind) (ch : Chooser) (evs : List Ev) (draws : List Nat)
    (hinc : isComplete c.I (run c evs) = false) :
    ∃ s' r m draws', solverStep c rule ch (run c evs) draws = some (s', r, m, draws') ∧
      s' = run c (evs ++ [.disp r.1 r.2 (some (m : Int))]) ∧ numScheduled s' = numScheduled (run c evs) + 1 := by
  obtain ⟨hne, hall⟩ := C07_progress c hv evs hinc
  unfold solverStep
  obtain ⟨r, hr⟩ := Option.isSome_iff_exists.1
    (selectOp_isSome c (run c evs) rule (drawFor (ruleUsesDraw rule) draws).1 hne)
  have hrav := C04_selected_available c _ rule _ r hr
  obtain ⟨_, op, hop, hacc⟩ := hall r hrav
  simp only [hr]
  have hmne := (hv r.1 r.2 op hop).1
  have hch : ∀ d2, ∃ m, chooseMachine c.I ch r d2 = some m ∧ m ∈ op.machines := by
    intro d2
    unfold chooseMachine
    simp only [hop]
    cases ch with
    | first =>
      cases hms : op.machines with
      | nil => exact absurd hms hmne
      | cons a t => exact ⟨a, rfl, by simp⟩
    | random =>
      have hlen : 0 < op.machines.length := List.length_pos_iff.2 hmne
      have : ¬ op.machines.isEmpty = true := by simpa using hmne
      simp only [this, Bool.false_eq_true, ↓reduceIte]
      have hlt : d2 % op.machines.length < op.machines.length := Nat.mod_lt _ hlen
      exact ⟨op.machines[d2 % op.machines.length], List.getElem?_eq_getElem hlt, List.getElem_mem _⟩
  obtain ⟨m, hm, hmem⟩ := hch (drawFor (chooserUsesDraw ch) (drawFor (ruleUsesDraw rule) draws).2).1
  obtain ⟨s', hs'⟩ := hacc m hmem
  simp only [hm, hs']
  exact ⟨s', r, m, _, rfl, (run_snoc_dispatch hs').symm, numScheduled_dispatch (inv_run hv evs).cinv.wf hs'⟩

theorem solveLoop_terminates (c : Cfg) (hv : Valid c.I) (rule : RuleKind) (ch : Chooser) :
    ∀ (fuel : Nat) (evs : List Ev) (draws : List Nat), numOps c.I - numScheduled (run c evs) < fuel →
      ∃ evs', solveLoop c rule ch fuel (run c evs) draws = some (run c evs') ∧ isComplete c.I (run c evs') = true := by
  intro fuel
  induction fuel with
  | zero => exact fun _ _ h => absurd h (Nat.not_lt_zero _)
  | succ fuel ih =>
    intro evs draws h
    cases hc : isComplete c.I (run c evs) with
    | true => exact ⟨evs, by rw [solveLoop, if_pos hc], hc⟩
    | false =>
      obtain ⟨s', r, m, draws', hstep, hs', hn⟩ := solverStep_ok c hv rule ch evs draws hc
      rw [solveLoop, if_neg (by rw [hc]; exact Bool.false_ne_true), hstep, hs']
      have hlt := lt_numOps_of_incomplete (inv_run hv evs).cinv hc
      exact ih _ draws' (by rw [← hs', hn]; omega)

/-- **C04 (termination).** For every valid instance, every built-in rule, chooser and filter configuration
and every draw stream, `solve` terminates within `num_operations + 1` iterations of its loop — the fuel
is never exhausted and no step raises — with a complete feasible schedule. -/
theorem C04_terminates (c : Cfg) (hv : Valid c.I) (rule : RuleKind) (ch : Chooser) (draws : List Nat) :
    ∃ S, solve c rule ch draws = some S ∧ isComplete c.I S = true ∧ Feasible c.I S.sched := by
  obtain ⟨evs', h1, h2⟩ := solveLoop_terminates c hv rule ch (numOps c.I + 1) [] draws (by
    simp only [run, runEvs, List.foldl_nil]; omega)
  exact ⟨run c evs', h1, h2, C01_feasible c hv evs'⟩

/-! non-vacuity -/
example :
    let c : Cfg := { I := exampleInstance, F := some [.dominated, .nonIdleMachines] }
    ((solve c .mwkr .first []).map makespan, (solve c (.tieBreak [.spt, .mor]) .random [1, 0, 1]).map makespan,
     selectOp c (init c.I) .spt 0, selectOp c (init c.I) .observerMwkr 0) = (some 6, some 8, some (0, 0), some (0, 0)) := by
  decide +kernel

end JS
