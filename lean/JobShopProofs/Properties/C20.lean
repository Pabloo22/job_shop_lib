import JobShopModel.Viz
import JobShopProofs.Properties.C02
/-!
# C20 — Gantt charts and animations show the schedule that was built
-/
namespace JS

/-- value of a most-significant-first digit list -/
def dval (ds : List Nat) : Nat := ds.foldl (fun acc d => acc * 10 + d) 0

theorem foldl_val (l : List Nat) : ∀ acc, l.foldl (fun acc d => acc * 10 + d) acc = acc * 10 ^ l.length + dval l := by
  induction l with
  | nil => intro acc; simp [dval]
  | cons a t ih =>
    intro acc
    simp only [List.foldl_cons, dval, List.length_cons]
    rw [ih (acc * 10 + a), ih (0 * 10 + a)]
    simp only [dval, Nat.zero_mul, Nat.zero_add, Nat.pow_succ, Nat.add_mul]
    rw [Nat.mul_assoc acc, Nat.mul_comm 10]
    omega

theorem dval_cons (a : Nat) (as : List Nat) : dval (a :: as) = a * 10 ^ as.length + dval as := by
  simp only [dval, List.foldl_cons]
  rw [foldl_val as (0 * 10 + a)]; simp [dval]

theorem dval_append_single (ds : List Nat) (d : Nat) : dval (ds ++ [d]) = dval ds * 10 + d := by
  simp [dval, List.foldl_append]

theorem lt_of_lead_lt {a b x n : Nat} (y : Nat) (hab : a < b) (hx : x < 10 ^ n) : a * 10 ^ n + x < b * 10 ^ n + y := by
  have : (a + 1) * 10 ^ n ≤ b * 10 ^ n := Nat.mul_le_mul_right _ hab
  rw [Nat.add_mul] at this
  omega

theorem dval_lt (ds : List Nat) (h : ∀ d ∈ ds, d < 10) : dval ds < 10 ^ ds.length := by
  induction ds with
  | nil => simp [dval]
  | cons a t ih =>
    rw [dval_cons, List.length_cons, Nat.pow_succ, Nat.mul_comm (10 ^ t.length) 10]
    exact lt_of_lead_lt 0 (h a (by simp)) (ih fun d hd => h d (by simp [hd]))

theorem decDigits_lt10 (n : Nat) (h : n < 10) : decDigits n = [n] := by
  rw [decDigits]; simp [h]

theorem decDigits_ge10 (n : Nat) (h : ¬ n < 10) : decDigits n = decDigits (n / 10) ++ [n % 10] := by
  rw [decDigits]; simp [h]

theorem dval_decDigits (n : Nat) : dval (decDigits n) = n := by
  induction n using Nat.strongRecOn with
  | _ n ih =>
    by_cases h : n < 10
    · rw [decDigits_lt10 n h]; simp [dval]
    · rw [decDigits_ge10 n h, dval_append_single, ih (n / 10) (by omega)]; omega

theorem decDigits_digits (n : Nat) : ∀ d ∈ decDigits n, d < 10 := by
  induction n using Nat.strongRecOn with
  | _ n ih =>
    by_cases h : n < 10
    · rw [decDigits_lt10 n h]; intro d hd; simp at hd; omega
    · rw [decDigits_ge10 n h]
      intro d hd
      rcases List.mem_append.1 hd with h1 | h1
      · exact ih (n / 10) (by omega) d h1
      · simp at h1; omega

theorem decDigits_length_pos (n : Nat) : 0 < (decDigits n).length := by
  by_cases h : n < 10
  · rw [decDigits_lt10 n h]; simp
  · rw [decDigits_ge10 n h]; simp

theorem decDigits_length_mono : ∀ (m n : Nat), n ≤ m → (decDigits n).length ≤ (decDigits m).length := by
  intro m
  induction m using Nat.strongRecOn with
  | _ m ih =>
    intro n hnm
    by_cases hm : m < 10
    · rw [decDigits_lt10 m hm, decDigits_lt10 n (by omega)]; simp
    · by_cases hn : n < 10
      · rw [decDigits_lt10 n hn, decDigits_ge10 m hm]; simp
      · rw [decDigits_ge10 n hn, decDigits_ge10 m hm]
        simp only [List.length_append, List.length_singleton]
        have := ih (m / 10) (by omega) (n / 10) (Nat.div_le_div_right hnm)
        omega

theorem frameDigits_digits (n : Nat) : ∀ d ∈ frameDigits n, d < 10 := by
  intro d hd
  simp only [frameDigits, pad2, List.mem_append, List.mem_replicate] at hd
  rcases hd with ⟨_, rfl⟩ | h
  · omega
  · exact decDigits_digits n d h

theorem dval_replicate_zero (k : Nat) (ds : List Nat) : dval (List.replicate k 0 ++ ds) = dval ds := by
  induction k with
  | zero => simp
  | succ k ih => rw [List.replicate_succ, List.cons_append, dval_cons, ih]; simp

theorem dval_frameDigits (n : Nat) : dval (frameDigits n) = n := by
  simp only [frameDigits, pad2]; rw [dval_replicate_zero, dval_decDigits]

theorem frameDigits_length (n : Nat) : (frameDigits n).length = max 2 (decDigits n).length := by
  simp only [frameDigits, pad2, List.length_append, List.length_replicate]; omega

theorem frameDigits_length_mono (m n : Nat) (h : n ≤ m) : (frameDigits n).length ≤ (frameDigits m).length := by
  rw [frameDigits_length, frameDigits_length]
  have := decDigits_length_mono m n h
  omega

theorem lexLe_iff : ∀ (as bs : List Nat), as.length = bs.length → (∀ d ∈ as, d < 10) → (∀ d ∈ bs, d < 10) →
    (lexLe as bs = true ↔ dval as ≤ dval bs)
  | [], [], _, _, _ => by simp [lexLe, dval]
  | [], _ :: _, h, _, _ => by simp at h
  | _ :: _, [], h, _, _ => by simp at h
  | a :: as, b :: bs, hlen, ha, hb => by
    simp only [List.length_cons, Nat.add_right_cancel_iff] at hlen
    have ih := lexLe_iff as bs hlen (fun d hd => ha d (by simp [hd])) (fun d hd => hb d (by simp [hd]))
    have h1 := dval_lt as (fun d hd => ha d (by simp [hd]))
    have h2 := dval_lt bs (fun d hd => hb d (by simp [hd]))
    rw [dval_cons, dval_cons, hlen]
    rw [hlen] at h1
    simp only [lexLe]
    by_cases hab : a < b
    · simp only [hab, ↓reduceIte, true_iff]
      exact Nat.le_of_lt (lt_of_lead_lt _ hab h1)
    · simp only [hab, ↓reduceIte]
      by_cases heq : a = b
      · subst heq; simp only [↓reduceIte, ih]; omega
      · simp only [heq, ↓reduceIte, Bool.false_eq_true, false_iff, Nat.not_le]
        exact lt_of_lead_lt _ (by omega) h2

/-- **the sort key `(len(name), name)` orders frames numerically — for every frame number, with no bound** -/
theorem frameKeyLe_iff (i j : Nat) : frameKeyLe i j = true ↔ i ≤ j := by
  simp only [frameKeyLe]
  split
  next hlt =>
    refine iff_of_true rfl (Nat.le_of_not_lt fun h => ?_)
    have := frameDigits_length_mono i j (Nat.le_of_lt h)
    omega
  split
  next heq => rw [lexLe_iff _ _ heq (frameDigits_digits i) (frameDigits_digits j), dval_frameDigits, dval_frameDigits]
  next hlt hne =>
    refine iff_of_false Bool.false_ne_true fun h => ?_
    have := frameDigits_length_mono j i h
    omega

theorem insertBy_perm (le : Nat → Nat → Bool) (x : Nat) : ∀ (l : List Nat), (insertBy le x l).Perm (x :: l)
  | [] => List.Perm.refl _
  | y :: ys => by
    simp only [insertBy]
    split
    · exact List.Perm.refl _
    · exact ((insertBy_perm le x ys).cons y).trans (List.Perm.swap x y ys)

theorem insertBy_sorted (x : Nat) : ∀ (l : List Nat), l.Pairwise (· ≤ ·) → (insertBy frameKeyLe x l).Pairwise (· ≤ ·)
  | [], _ => List.pairwise_singleton _ _
  | y :: ys, h => by
    obtain ⟨h1, h2⟩ := List.pairwise_cons.1 h
    simp only [insertBy]
    split
    next hxy =>
      have hle := (frameKeyLe_iff x y).1 hxy
      exact List.pairwise_cons.2 ⟨List.forall_mem_cons.2 ⟨hle, fun b hb => Nat.le_trans hle (h1 b hb)⟩, h⟩
    next hxy =>
      refine List.pairwise_cons.2 ⟨fun b hb => ?_, insertBy_sorted x ys h2⟩
      rcases List.mem_cons.1 ((insertBy_perm frameKeyLe x ys).mem_iff.1 hb) with rfl | hb
      · exact Nat.le_of_not_le fun h => hxy ((frameKeyLe_iff b y).2 h)
      · exact h1 b hb

theorem loadOrder_spec (l : List Nat) : (loadOrder l).Perm l ∧ (loadOrder l).Pairwise (· ≤ ·) := by
  induction l with
  | nil => simp [loadOrder]
  | cons a t ih =>
    simp only [loadOrder, List.foldr_cons]
    exact ⟨(insertBy_perm _ a _).trans (ih.1.cons a), insertBy_sorted a _ ih.2⟩

/-- **C20 (frames load in numeric order, for every number of frames).** Whatever order the directory listing
returns the `n` frame files in, sorting them by `(len(name), name)` yields frame 1, frame 2, …, frame `n`. -/
theorem C20_load_order (n : Nat) (listing : List Nat) (h : listing.Perm ((List.range n).map (· + 1))) :
    loadOrder listing = (List.range n).map (· + 1) := by
  obtain ⟨hp, hs⟩ := loadOrder_spec listing
  refine List.Perm.eq_of_pairwise (le := (· ≤ ·)) (fun a b _ _ h1 h2 => Nat.le_antisymm h1 h2) hs ?_ (hp.trans h)
  rw [List.pairwise_map]
  exact (List.pairwise_lt_range (n := n)).imp (fun h => by omega)

/-- the k-th frame is drawn from the schedule after the first k recorded dispatches (C02 replay), and it is the
k-th file loaded -/
theorem C20_frame_k (I : Instance) (h : List (Nat × Nat × Nat)) (k : Nat) (hk : k < h.length)
    (listing : List Nat) (hl : listing.Perm ((List.range h.length).map (· + 1))) :
    (loadOrder listing)[k]? = some (k + 1) ∧
    replay I (init I) (h.take (k + 1)) = replay I (replay I (init I) (h.take k)) ((h.drop k).take 1) := by
  constructor
  · rw [C20_load_order h.length listing hl]; simp [hk]
  · rw [← replay_append]
    congr 1
    rw [List.take_add_one]
    cases hd : h[k]? with
    | none => simp [List.getElem?_eq_none_iff] at hd; omega
    | some x => simp [List.drop_eq_getElem_cons hk, List.getElem?_eq_some_iff.1 hd |>.2]

theorem bars_length (s : State) : (bars s).length = numScheduled s := by
  simp only [bars, numScheduled, List.length_flatMap, List.length_map]
  have : s.sched.zipIdx.map (fun p => p.1.length) = s.sched.map List.length := by
    rw [show (fun p : List SOp × Nat => p.1.length) = List.length ∘ Prod.fst from rfl, ← List.map_map,
      List.zipIdx_eq_zip_range', List.map_fst_zip (by simp)]
  simpa using congrArg List.sum this

/-- **C20 (bars).** The chart draws exactly one bar per scheduled operation, machine list by machine list: the bar of
entry `x` listed on machine `m` sits in row `1 + 10·m`, starts at `x.start`, is `x.dur` wide and takes its colour
from `x.job`. -/
theorem C20_bars (s : State) :
    bars s = s.sched.zipIdx.flatMap (fun (ms, mi) => ms.map fun x => (⟨1 + 10 * mi, x.start, x.dur, x.job⟩ : Bar)) ∧
    (bars s).length = numScheduled s := by
  refine ⟨?_, bars_length s⟩
  simp only [bars, SOp.end_]
  congr 1
  funext p
  obtain ⟨ms, mi⟩ := p
  simp only
  apply List.map_congr_left
  intro x _
  congr 1
  omega

theorem bars_of_inList (s : State) (hin : ∀ m, ∀ x ∈ s.sched.getD m [], x.machine = m) (b : Bar) :
    b ∈ bars s ↔ ∃ x ∈ s.sched.flatten, b = ⟨1 + 10 * x.machine, x.start, x.dur, x.job⟩ := by
  rw [(C20_bars s).1]
  simp only [List.mem_flatMap, List.mem_map, List.mem_flatten, Prod.exists]
  constructor
  · rintro ⟨ms, mi, hmem, x, hx, rfl⟩
    have hget := List.mem_zipIdx_iff_getElem?.1 hmem
    have hxm : x.machine = mi := hin mi x (by simp [List.getD_eq_getElem?_getD, hget, hx])
    exact ⟨x, ⟨ms, List.mem_of_getElem? hget, hx⟩, by rw [hxm]⟩
  · rintro ⟨x, ⟨ms, hms, hx⟩, rfl⟩
    obtain ⟨mi, hget⟩ := List.getElem?_of_mem hms
    have hxm : x.machine = mi := hin mi x (by simp [List.getD_eq_getElem?_getD, hget, hx])
    exact ⟨ms, mi, List.mem_zipIdx_iff_getElem?.2 hget, x, hx, by rw [hxm]⟩

/-- **C20 (bars, every reachable schedule).** In every state a dispatcher can reach, the bars are exactly the
entries of the schedule: each sits in the row of the machine *its operation was assigned to*, and every scheduled
entry has its bar. -/
theorem C20_bars_reachable (c : Cfg) (hv : Valid c.I) (evs : List Ev) (b : Bar) :
    b ∈ bars (run c evs) ↔
      ∃ x ∈ (run c evs).sched.flatten, b = ⟨1 + 10 * x.machine, x.start, x.dur, x.job⟩ :=
  bars_of_inList _ (inv_run hv evs).cinv.inList b

theorem xticks_last (xlim n : Nat) : (xticks xlim n).getLast? = some xlim := by
  simp only [xticks]
  split
  · rename_i h; simpa using h
  · simp

/-- **C20 (time axis).** The last tick is the makespan (or the requested limit) and no tick exceeds it. -/
theorem C20_ticks (xlim n : Nat) :
    (xticks xlim n).getLast? = some xlim ∧ ∀ t ∈ xticks xlim n, t ≤ xlim := by
  refine ⟨xticks_last xlim n, ?_⟩
  have hstep : 0 < max 1 (xlim / n) := by omega
  have hall : ∀ t ∈ (List.range (xlim / max 1 (xlim / n) + 1)).map (· * max 1 (xlim / n)), t ≤ xlim := by
    intro t ht
    simp only [List.mem_map, List.mem_range] at ht
    obtain ⟨k, hk, rfl⟩ := ht
    calc k * max 1 (xlim / n) ≤ (xlim / max 1 (xlim / n)) * max 1 (xlim / n) :=
          Nat.mul_le_mul_right _ (by omega)
      _ ≤ xlim := Nat.div_mul_le_self _ _
  intro t ht
  simp only [xticks] at ht
  split at ht
  · exact hall t ht
  · rcases List.mem_append.1 ht with h | h
    · exact hall t (List.dropLast_subset _ h)
    · simp at h; omega

/-! non-vacuity: frame 100 sorts after frame 11 and 99; frame 1000 after 101 -/
example : loadOrder [100, 11, 1000, 99, 101, 9] = [9, 11, 99, 100, 101, 1000] := by
  decide +kernel
example : frameKeyLe 99 100 = true ∧ frameKeyLe 100 11 = false := by
  exact ⟨(frameKeyLe_iff 99 100).2 (by omega), by
    cases h : frameKeyLe 100 11
    · rfl
    · exact absurd ((frameKeyLe_iff 100 11).1 h) (by omega)⟩

end JS
