import Batteries.Data.List.Perm
import JobShopProofs.Reach
/-!
# C01 — every dispatch history yields a feasible schedule

`Feasible`/`Complete` are *declarative* predicates over the per-machine lists; they mention neither the
tracking vectors nor `dispatch`.  The theorems quantify over every valid instance (flexible, zero
durations, recirculation), every filter configuration `c.F` and every event list: accepted and rejected
requests (arbitrary job, position, machine argument), resets and queries in any order.
-/
namespace JS

/-- Declarative feasibility of a partial schedule given as per-machine lists. -/
structure Feasible (I : Instance) (S : List (List SOp)) : Prop where
  /-- each operation appears at most once -/
  once : (S.flatten.map fun x => (x.job, x.pos)).Nodup
  /-- every entry is an operation of the instance, with its duration, on one of its eligible machines -/
  isOp : ∀ x ∈ S.flatten, ∃ op, getOp I x.job x.pos = some op ∧ x.dur = op.dur ∧ x.machine ∈ op.machines
  /-- and it is listed under that machine -/
  inList : ∀ m, ∀ x ∈ S.getD m [], x.machine = m
  /-- the scheduled operations of a job form a prefix of the job -/
  jobPrefix : ∀ x ∈ S.flatten, ∀ q, q < x.pos → ∃ y ∈ S.flatten, y.job = x.job ∧ y.pos = q
  /-- operations of a job run in job order without overlapping -/
  jobOrder : ∀ x ∈ S.flatten, ∀ y ∈ S.flatten, x.job = y.job → x.pos < y.pos → x.end_ ≤ y.start
  /-- operations on a machine are listed in time order and do not overlap -/
  machOrder : ∀ m, (S.getD m []).Pairwise (fun a b => a.end_ ≤ b.start)
  /-- no start time is negative -/
  nonneg : ∀ x ∈ S.flatten, 0 ≤ x.start

/-- every operation of the instance is scheduled -/
def Complete (I : Instance) (S : List (List SOp)) : Prop :=
  ∀ j p, (getOp I j p).isSome → ∃ x ∈ S.flatten, x.job = j ∧ x.pos = p

theorem feasible_of_cinv {I : Instance} {s : State} (h : CInv I s) : Feasible I s.sched := by
  obtain ⟨a, hr, ha, ha2⟩ := h.abs
  have hmem : ∀ x, x ∈ s.sched.flatten ↔ x ∈ a.sched := fun x => hr.sched.mem_iff.symm
  constructor
  · exact (hr.sched.map _).nodup_iff.1 ha2.keys_nodup
  · intro x hx
    obtain ⟨op, hop, hd⟩ := ha.sched_op x ((hmem x).1 hx)
    exact ⟨op, hop, hd, ha2.elig x ((hmem x).1 hx) op hop⟩
  · exact h.inList
  · intro x hx q hq
    have := ha.sched_lt x ((hmem x).1 hx)
    obtain ⟨y, hy, h1, h2⟩ := ha.idx_sched x.job q (by omega)
    exact ⟨y, (hmem y).2 hy, h1, h2⟩
  · intro x hx y hy
    exact ha2.jobOrder x ((hmem x).1 hx) y ((hmem y).1 hy)
  · exact h.ordered
  · intro x hx; exact ha2.start_nonneg x ((hmem x).1 hx)

/-- **C01 (feasibility).** For every valid instance, every filter configuration and every history of
events, the schedule held by the dispatcher is feasible — after every step, because the history is
arbitrary. -/
theorem C01_feasible (c : Cfg) (hv : Valid c.I) (evs : List Ev) : Feasible c.I (run c evs).sched :=
  feasible_of_cinv (inv_run hv evs).cinv

/-- Feasibility under every filter configuration: `C01_feasible` at `{ I, F }`. -/
theorem C01_feasible_filtered (I : Instance) (hv : Valid I) (F : FilterCfg) (evs : List Ev) :
    Feasible I (run { I := I, F := F } evs).sched := C01_feasible { I := I, F := F } hv evs

/-- A ready operation on any of its eligible machines is accepted in every reachable state. -/
theorem C01_accepts_ready_eligible (c : Cfg) (hv : Valid c.I) (evs : List Ev) (j p m : Nat) (op : Op)
    (hop : getOp c.I j p = some op) (hready : (run c evs).jobIdx.getD j 0 = p) (hm : m ∈ op.machines) :
    ∃ s', dispatchReq c.I (run c evs) j p (some (m : Int)) = .ok s' := by
  rw [dispatchReq_eq_dispatch hop hready (resolveMachine_natCast hm)]
  exact dispatch_accepts (inv_run hv evs).cinv hop hready hm

theorem map_getD_range {α β} (l : List α) (d : α) (f : α → β) :
    (List.range l.length).map (fun j => f (l.getD j d)) = l.map f := by
  apply List.ext_getElem
  · simp
  · intro i h1 h2
    simp only [List.length_map, List.length_range] at h1
    simp [List.getD_eq_getElem?_getD, List.getElem?_eq_getElem h1]

theorem length_allOps (I : Instance) : (allOps I).length = numOps I := by
  unfold allOps numOps
  rw [List.length_flatMap]
  simp only [List.length_map, List.length_range]
  rw [map_getD_range I [] List.length]

theorem nodup_flatMap_pair (g : Nat → List Nat) (hg : ∀ j, (g j).Nodup) : ∀ (l : List Nat), l.Nodup →
    (l.flatMap fun j => (g j).map fun p => (j, p)).Nodup
  | [], _ => by simp
  | j :: t, hl => by
    rw [List.nodup_cons] at hl
    simp only [List.flatMap_cons]
    rw [List.nodup_append]
    refine ⟨List.Pairwise.map _ (by intro a b hab h; simp at h; exact hab h) (hg j), nodup_flatMap_pair g hg t hl.2, ?_⟩
    intro a ha b hb hab
    simp only [List.mem_map] at ha
    obtain ⟨p, _, rfl⟩ := ha
    simp only [List.mem_flatMap, List.mem_map] at hb
    obtain ⟨j', hj', p', _, hp'⟩ := hb
    rw [← hab] at hp'
    simp only [Prod.mk.injEq] at hp'
    exact hl.1 (hp'.1 ▸ hj')

theorem nodup_allOps (I : Instance) : (allOps I).Nodup :=
  nodup_flatMap_pair (fun j => List.range (I.getD j []).length) (fun _ => List.nodup_range) _ List.nodup_range

theorem complete_iff_count {I : Instance} {S : List (List SOp)} (hf : Feasible I S) :
    S.flatten.length = numOps I ↔ Complete I S := by
  have hsub : (S.flatten.map fun x => (x.job, x.pos)) ⊆ allOps I := by
    intro r hr
    simp only [List.mem_map] at hr
    obtain ⟨x, hx, rfl⟩ := hr
    obtain ⟨op, hop, _⟩ := hf.isOp x hx
    exact (mem_allOps' I _).2 (by simp [hop])
  have hsp := List.subperm_of_subset hf.once hsub
  constructor
  · intro hlen j p hjp
    have hperm := hsp.perm_of_length_le (by rw [List.length_map, length_allOps, hlen]; exact Nat.le_refl _)
    have : (j, p) ∈ (S.flatten.map fun x => (x.job, x.pos)) :=
      hperm.mem_iff.2 ((mem_allOps' I (j, p)).2 hjp)
    simp only [List.mem_map, Prod.mk.injEq] at this
    obtain ⟨x, hx, h1, h2⟩ := this
    exact ⟨x, hx, h1, h2⟩
  · intro hc
    have hsub2 : allOps I ⊆ (S.flatten.map fun x => (x.job, x.pos)) := by
      intro r hr
      obtain ⟨x, hx, h1, h2⟩ := hc r.1 r.2 ((mem_allOps' I r).1 hr)
      exact List.mem_map.2 ⟨x, hx, by simp [h1, h2]⟩
    have hsp2 := List.subperm_of_subset (nodup_allOps I) hsub2
    have h1 := hsp.length_le
    have h2 := hsp2.length_le
    simp only [List.length_map, length_allOps] at h1 h2
    omega

theorem numScheduled_eq (s : State) : numScheduled s = s.sched.flatten.length := by
  simp [numScheduled, List.length_flatten]

theorem numScheduled_init (I : Instance) : numScheduled (init I) = 0 := by
  simp [init, numScheduled]

/-- number of accepted dispatches since the last reset, counted along the history -/
def acceptedSinceReset (c : Cfg) : State → List Ev → Nat → Nat
  | _, [], n => n
  | s, e :: evs, n =>
    match e with
    | .disp j p m =>
      match dispatchReq c.I s j p m with
      | .ok s' => acceptedSinceReset c s' evs (n + 1)
      | .error _ => acceptedSinceReset c s evs n
    | .reset => acceptedSinceReset c (reset c.I s) evs 0
    | .query q => acceptedSinceReset c (ask c s q).2 evs n

theorem numScheduled_dispatch {I : Instance} {s s' : State} {j p m : Nat} (hwf : WF I s)
    (h : dispatch I s j p m = .ok s') : numScheduled s' = numScheduled s + 1 := by
  obtain ⟨op, hd⟩ := dispatch_ok h
  rw [numScheduled_eq, numScheduled_eq, (hd.flatten_perm hwf).length_eq, List.length_append]
  rfl

theorem count_runEvs (c : Cfg) (hv : Valid c.I) : ∀ (evs : List Ev) (s : State) (n : Nat), Inv c s →
    numScheduled s = n → numScheduled (runEvs c s evs) = acceptedSinceReset c s evs n
  | [], s, n, _, h => by simp [runEvs, acceptedSinceReset, h]
  | e :: evs, s, n, hi, h => by
    have hnext := inv_stepEv hv hi e
    cases e with
    | disp j p m =>
      simp only [runEvs, List.foldl_cons, stepEv, acceptedSinceReset] at hnext ⊢
      cases hd : dispatchReq c.I s j p m with
      | ok s' =>
        simp only [hd] at hnext ⊢
        obtain ⟨mm, op, _, _, hdd⟩ := dispatchReq_ok hd
        exact count_runEvs c hv evs s' (n+1) hnext (by rw [numScheduled_dispatch hi.cinv.wf hdd, h])
      | error e =>
        simp only [hd] at hnext ⊢
        exact count_runEvs c hv evs s n hnext h
    | reset =>
      simp only [runEvs, List.foldl_cons, stepEv, acceptedSinceReset] at hnext ⊢
      exact count_runEvs c hv evs _ 0 hnext (numScheduled_init c.I)
    | query q =>
      simp only [runEvs, List.foldl_cons, stepEv, acceptedSinceReset] at hnext ⊢
      obtain ⟨_, _, k, hk⟩ := ask_ok c s hi.cache q
      exact count_runEvs c hv evs _ n hnext (by rw [hk]; exact h)

/-- `is_complete()` compares the number of entries with the number of operations; under the invariant that
says that every operation is scheduled -/
theorem cinv_isComplete_iff {I : Instance} {s : State} (hc : CInv I s) :
    isComplete I s = true ↔ Complete I s.sched := by
  rw [isComplete, beq_iff_eq, numScheduled_eq]
  exact complete_iff_count (feasible_of_cinv hc)

/-- **C01 (completeness).** The schedule is complete (every operation of the instance is scheduled, and
`is_complete()` says so) exactly when the number of accepted dispatches since the last reset equals the
number of operations: one accepted dispatch per operation, no more, no fewer. -/
theorem C01_complete_iff (c : Cfg) (hv : Valid c.I) (evs : List Ev) :
    (acceptedSinceReset c (init c.I) evs 0 = numOps c.I ↔ Complete c.I (run c evs).sched) ∧
    (isComplete c.I (run c evs) = true ↔ Complete c.I (run c evs).sched) := by
  have hiff := cinv_isComplete_iff (inv_run hv evs).cinv
  refine ⟨?_, hiff⟩
  rw [← count_runEvs c hv evs (init c.I) 0 (inv_init c) (numScheduled_init c.I)]
  exact beq_iff_eq.symm.trans hiff

/-! non-vacuity: the hypotheses are satisfiable -/

/-- a flexible instance with a zero duration, recirculation and an unused machine id (machine 2) -/
def exampleInstance : Instance :=
  [[⟨[0, 1], 3⟩, ⟨[3], 0⟩, ⟨[0], 2⟩], [⟨[1], 4⟩, ⟨[0, 3], 1⟩]]

example : validB exampleInstance = true := by decide +kernel
example : Valid exampleInstance := valid_of_validB (by decide +kernel)
/-- a history with accepted, rejected (not next; ineligible machine; `None` on a flexible op) requests, a
query and a reset; it ends complete -/
def exampleHistory : List Ev :=
  [.disp 0 0 (some 1), .disp 0 2 (some 0), .disp 1 0 none, .query .currentTime, .disp 1 1 (some 2), .disp 1 1 none,
   .reset, .disp 1 0 (some 1), .disp 0 0 (some 1), .disp 0 1 none, .disp 1 1 (some 3), .disp 0 2 (some 0)]
example : isComplete exampleInstance (run { I := exampleInstance, F := some [.dominated] } exampleHistory) = true := by
  decide +kernel

end JS
