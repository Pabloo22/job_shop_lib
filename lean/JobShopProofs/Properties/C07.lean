import JobShopProofs.Properties.C05
/-!
# C07 — ready-operation filters prune soundly and never deadlock

For `f ∈ {dominated, nonImmediateMachines, nonIdleMachines, nonImmediateOps}` and every composition.
States are arbitrary reachable states `run c evs`; lists are arbitrary lists `L` of operations of the
instance (`RefsOK`), in particular every sub-list of the ready operations.
-/
namespace JS

/-- **C07 (never empty).** In every reachable state, every composition of filters maps a non-empty list of
operations of the instance to a non-empty list (zero durations included). -/
theorem C07_nonempty (c : Cfg) (hv : Valid c.I) (evs : List Ev) (fs : List FilterKind) (L : List OpRef)
    (hL : L ≠ []) (hok : RefsOK c.I L) : applyFilters c.I (run c evs) fs L ≠ [] :=
  applyFilters_nonempty hv (inv_run hv evs).cinv fs hL hok

/-- **C07 (composition).** A composite filter is the left-to-right fold of its parts. -/
theorem C07_comp (I : Instance) (s : State) (f : FilterKind) (fs : List FilterKind) (L : List OpRef) :
    applyFilters I s (f :: fs) L = applyFilters I s fs (applyFilter I s f L) ∧ applyFilters I s [] L = L :=
  ⟨rfl, rfl⟩

/-- **Idle machines.** In a reachable state the filter keeps exactly the operations that have an eligible
machine on which nothing is still running at the earliest start time of the list. -/
theorem C07_criterion_nonIdle (c : Cfg) (hv : Valid c.I) (evs : List Ev) (L : List OpRef) (r : OpRef) :
    let s := run c evs
    r ∈ filterNonIdle c.I s L ↔
      r ∈ L ∧ ∃ op, getOp c.I r.1 r.2 = some op ∧ ∃ m ∈ op.machines,
        ∀ x ∈ s.sched.getD m [], x.end_ ≤ minStart c.I s L :=
  mem_filterNonIdle (inv_run hv evs).cinv L r

/-- **Immediate operations.** The filter keeps exactly the operations that can themselves start, on one
of their machines, at the earliest start time of the list. -/
theorem C07_criterion_nonImmediateOps (I : Instance) (s : State) (L : List OpRef) (hok : RefsOK I L) (r : OpRef) :
    r ∈ filterNonImmediateOps I s L ↔
      r ∈ L ∧ ∃ op, getOp I r.1 r.2 = some op ∧ ∃ m ∈ op.machines, startTime s r.1 m = minStart I s L :=
  mem_filterNonImmediateOps hok r

/-- **Immediate machines.** The filter keeps exactly the operations that share an eligible machine with
some operation of the list that can start on that machine at the earliest start time. -/
theorem C07_criterion_nonImmediateMachines (I : Instance) (s : State) (L : List OpRef) (r : OpRef) :
    r ∈ filterNonImmediateMachines I s L ↔
      r ∈ L ∧ ∃ op, getOp I r.1 r.2 = some op ∧ ∃ m ∈ op.machines,
        ∃ r' ∈ L, ∃ op', getOp I r'.1 r'.2 = some op' ∧ m ∈ op'.machines ∧ startTime s r'.1 m = minStart I s L :=
  mem_filterNonImmediateMachines I s L r

/-- **Dominated operations**, zero-duration shortcut: if the list contains a zero-duration operation the
result is the first such operation alone. -/
theorem C07_criterion_dominated_zero (I : Instance) (s : State) (L : List OpRef) (r0 : OpRef)
    (h : L.find? (zeroDur I) = some r0) : filterDominated I s L = [r0] := by
  rw [filterDominated_eq, h]

theorem mem_rawReady (I : Instance) (s : State) (r : OpRef) :
    r ∈ rawReady I s ↔ r.1 < I.length ∧ r.2 = s.jobIdx.getD r.1 0 ∧ r.2 < (I.getD r.1 []).length := by
  obtain ⟨j, p⟩ := r
  unfold rawReady
  simp only [List.mem_filterMap, List.mem_range]
  constructor
  · rintro ⟨j', hj', h⟩
    split at h
    · simp only [Option.some.injEq, Prod.mk.injEq] at h
      obtain ⟨rfl, rfl⟩ := h
      exact ⟨hj', rfl, by assumption⟩
    · cases h
  · rintro ⟨h1, h2, h3⟩
    refine ⟨j, h1, ?_⟩
    have h2' : p = s.jobIdx.getD j 0 := h2
    have h3' : p < (I.getD j []).length := h3
    subst h2'
    simp only [h3', ↓reduceIte]

theorem rawReady_refsOK {I : Instance} (hv : Valid I) (s : State) : RefsOK I (rawReady I s) := by
  intro r hr
  obtain ⟨_, _, h3⟩ := (mem_rawReady I s r).1 hr
  have := (getD_length_of_getOp (I := I) (j := r.1) (p := r.2)).2 h3
  cases hop : getOp I r.1 r.2 with
  | none => simp [hop] at this
  | some op => exact ⟨op, rfl, (hv r.1 r.2 op hop).1⟩

theorem rawReady_eq_nil_iff {I : Instance} {s : State} (hc : CInv I s) : rawReady I s = [] ↔ Complete I s.sched := by
  constructor
  · intro hraw j p hjp
    apply Classical.byContradiction; intro hno
    -- `(j, p)` is not scheduled, so the next operation of job `j` exists and is ready
    have hidx : s.jobIdx.getD j 0 ≤ p := Nat.le_of_not_lt fun hlt =>
      let ⟨x, hx, he⟩ := (cinv_lt_jobIdx_iff hc (j, p)).1 hlt
      hno ⟨x, hx, (Prod.mk.inj he).1, (Prod.mk.inj he).2⟩
    have hlen := getD_length_of_getOp.1 hjp
    obtain ⟨op, hop⟩ := Option.isSome_iff_exists.1 hjp
    have hmem : (j, s.jobIdx.getD j 0) ∈ rawReady I s :=
      (mem_rawReady I s _).2 ⟨getOp_job_lt I j p op hop, rfl, Nat.lt_of_le_of_lt hidx hlen⟩
    rw [hraw] at hmem; cases hmem
  · intro hC
    apply List.eq_nil_iff_forall_not_mem.2
    intro r hr
    obtain ⟨_, h2, h3⟩ := (mem_rawReady I s r).1 hr
    obtain ⟨x, hx, hxj, hxp⟩ := hC r.1 r.2 (getD_length_of_getOp.2 h3)
    have := (cinv_lt_jobIdx_iff hc r).2 ⟨x, hx, by rw [hxj, hxp]⟩
    omega

theorem cinv_progress {c : Cfg} (hv : Valid c.I) {s : State} (hc : CInv c.I s) (hinc : isComplete c.I s = false) :
    availablePure c s ≠ [] ∧
    ∀ r ∈ availablePure c s, r ∈ rawReady c.I s ∧
      ∃ op, getOp c.I r.1 r.2 = some op ∧ ∀ m ∈ op.machines, ∃ s', dispatch c.I s r.1 r.2 m = .ok s' := by
  have hraw : rawReady c.I s ≠ [] := fun h =>
    absurd ((cinv_isComplete_iff hc).2 ((rawReady_eq_nil_iff hc).1 h)) (by simp [hinc])
  have hok := rawReady_refsOK hv s
  constructor
  · unfold availablePure applyCfg
    cases c.F with
    | none => exact hraw
    | some fs => exact applyFilters_nonempty hv hc fs hraw hok
  · intro r hr
    have hrr := (availablePure_sublist c s).subset hr
    obtain ⟨op, hop, _⟩ := hok r hrr
    obtain ⟨_, h2, _⟩ := (mem_rawReady c.I _ r).1 hrr
    exact ⟨hrr, op, hop, fun m hm => dispatch_accepts hc hop h2.symm hm⟩

/-- **C07 (no deadlock).** In every reachable state whose schedule is not complete, the list of
available operations (under any filter configuration) is non-empty, each available operation is a ready
operation of the instance, and dispatching it on any of its eligible machines is accepted.  So a
schedule can always be completed by choosing only among available operations. -/
theorem C07_progress (c : Cfg) (hv : Valid c.I) (evs : List Ev)
    (hinc : isComplete c.I (run c evs) = false) :
    availablePure c (run c evs) ≠ [] ∧
    ∀ r ∈ availablePure c (run c evs), r ∈ rawReady c.I (run c evs) ∧
      ∃ op, getOp c.I r.1 r.2 = some op ∧ ∀ m ∈ op.machines, ∃ s', dispatch c.I (run c evs) r.1 r.2 m = .ok s' :=
  cinv_progress hv (inv_run hv evs).cinv hinc

/-! non-vacuity: reachable states of the example instance in which each filter removes an operation
(the dominated filter through the zero-duration shortcut) -/
example :
    let c : Cfg := { I := exampleInstance }
    let s := run c [.disp 0 0 (some 0)]
    rawReady c.I s = [(0, 1), (1, 0)] ∧ filterDominated c.I s [(0, 1), (1, 0)] = [(0, 1)] ∧
    filterNonImmediateOps c.I s [(0, 1), (1, 0)] = [(1, 0)] ∧
    filterNonImmediateMachines c.I s [(0, 1), (1, 0)] = [(1, 0)] := by decide +kernel
example :
    let c : Cfg := { I := exampleInstance }
    let s := run c [.disp 0 0 (some 0), .disp 0 1 none]
    rawReady c.I s = [(0, 2), (1, 0)] ∧ filterNonIdle c.I s [(0, 2), (1, 0)] = [(1, 0)] := by decide +kernel

end JS
