import JobShopModel.Views
import JobShopProofs.Properties.C04
/-!
# C14 — instances and schedules survive serialisation; views match
-/
namespace JS

theorem opIdBase_succ (I : Instance) (j : Nat) (h : j < I.length) :
    opIdBase I (j + 1) = opIdBase I j + (I.getD j []).length := by
  unfold opIdBase
  rw [List.take_succ, List.map_append, List.sum_append]
  simp [List.getD_eq_getElem?_getD, List.getElem?_eq_getElem h]

theorem range_flatMap_ids (I : Instance) : ∀ n, n ≤ I.length →
    ((List.range n).flatMap fun j => (List.range (I.getD j []).length).map fun p => opIdBase I j + p)
      = List.range (opIdBase I n)
  | 0, _ => by simp [opIdBase]
  | n + 1, h => by
    rw [List.range_succ, List.flatMap_append, range_flatMap_ids I n (by omega)]
    simp only [List.flatMap_cons, List.flatMap_nil, List.append_nil]
    rw [opIdBase_succ I n (by omega), List.range_add]

/-- **C14 (ids).** Operation ids are numbered densely in job-major order: listing all operations job by job,
position by position, yields exactly `0, 1, …, num_operations − 1`. -/
theorem C14_ids (I : Instance) : (allOps I).map (opId I) = List.range (numOps I) := by
  have h1 : (allOps I).map (opId I) =
      (List.range I.length).flatMap fun j => (List.range (I.getD j []).length).map fun p => opIdBase I j + p := by
    simp only [allOps, List.map_flatMap, List.map_map]
    rfl
  rw [h1, range_flatMap_ids I I.length (Nat.le_refl _)]
  simp [opIdBase, numOps]

/-- **C14 (counts).** `num_operations` is the sum of the job lengths; every machine id that occurs is below
`num_machines`. -/
theorem C14_counts (I : Instance) :
    numOps I = (I.map List.length).sum ∧
    ∀ j p op m, getOp I j p = some op → m ∈ op.machines → m < numMachines I :=
  ⟨rfl, fun j p op m h hm => machine_lt I j p m op h hm⟩

/-- every operation has exactly one machine -/
def NonFlex (I : Instance) : Prop := ∀ job ∈ I, ∀ op ∈ job, op.machines.length = 1

theorem getOp_parts {I : Instance} {j p : Nat} {op : Op} (h : getOp I j p = some op) :
    I[j]? = some (I.getD j []) ∧ (I.getD j [])[p]? = some op := by
  simp only [getOp] at h
  cases hj : I[j]? with
  | none => simp [hj] at h
  | some job =>
    simp only [hj, Option.bind_some] at h
    simp [List.getD_eq_getElem?_getD, hj, h]

theorem nonFlex_single {I : Instance} (h : NonFlex I) {j p : Nat} {op : Op} (hop : getOp I j p = some op) :
    ∃ m, op.machines = [m] :=
  List.length_eq_one_iff.1
    (h _ (List.mem_of_getElem? (getOp_parts hop).1) op (List.mem_of_getElem? (getOp_parts hop).2))

/-- every operation has at least one machine -/
def HasMachine (I : Instance) : Prop := ∀ job ∈ I, ∀ op ∈ job, op.machines ≠ []

theorem not_flexible_iff (I : Instance) : isFlexible I = false ↔ ∀ job ∈ I, ∀ op ∈ job, op.machines.length ≤ 1 := by
  simp only [isFlexible, List.any_eq_false, List.any_eq_true, not_exists, not_and, decide_eq_true_eq]
  constructor
  · intro h job hj op ho
    have := h job hj op ho
    omega
  · intro h job hj op ho
    have := h job hj op ho
    omega

theorem map_range_getD {α β} (l : List α) (d : α) (f : α → β) :
    (List.range l.length).map (fun i => f (l.getD i d)) = l.map f :=
  map_getD_range l d f

theorem map_eq_self {α} {l : List α} {f : α → α} (h : ∀ x ∈ l, f x = x) : l.map f = l :=
  (List.map_congr_left h).trans (List.map_id' l)

theorem map_range_getD₂ {α β γ δ} (l : List α) (f : α → β) (g : α → γ) (b : β) (c : γ) (mk : β → γ → δ) :
    ((List.range (l.map g).length).map fun p => mk ((l.map f).getD p b) ((l.map g).getD p c)) =
      l.map fun x => mk (f x) (g x) := by
  apply List.ext_getElem
  · simp only [List.length_map, List.length_range]
  · intro i h1 h2
    have hi : i < l.length := by simpa only [List.length_map, List.length_range] using h1
    simp only [List.getElem_map, List.getElem_range, List.getD_eq_getElem?_getD, List.getElem?_map,
      List.getElem?_eq_getElem hi, Option.map_some, Option.getD_some]

/-- `from_matrices` on the duration matrix and a matrix of per-operation data `f op`, when `mk` rebuilds the operation:
`map_range_getD₂`, for the rows and then inside each row -/
theorem rebuild_rows {β} (I : Instance) (f : Op → β) (b : β) (mk : β → Int → Op)
    (hmk : ∀ job ∈ I, ∀ op ∈ job, mk (f op) op.dur = op) :
    ((List.range (durationsMatrix I).length).map fun j =>
      (List.range ((durationsMatrix I).getD j []).length).map fun p =>
        mk (((I.map fun job => job.map f).getD j []).getD p b) (((durationsMatrix I).getD j []).getD p 0)) = I := by
  unfold durationsMatrix
  rw [map_range_getD₂ I (fun job => job.map f) (fun job => job.map (·.dur)) [] []
    (fun ms ds => (List.range ds.length).map fun p => mk (ms.getD p b) (ds.getD p 0))]
  refine map_eq_self fun job hj => ?_
  rw [map_range_getD₂ job f (·.dur) b 0 mk]
  exact map_eq_self (hmk job hj)

theorem fromMatrices_flex (I : Instance) :
    fromMatrices (durationsMatrix I) (.flex (I.map fun job => job.map (·.machines))) = I :=
  rebuild_rows I (·.machines) [] (fun ms d => ⟨ms, d⟩) (fun _ _ _ _ => rfl)

/-- **C14 (dictionary round trip).** For every instance whose operations all have a machine, converting to
the dictionary form (duration matrix + machines matrix — lists of machines when flexible, single ids
otherwise) and back reproduces the same operations. -/
theorem C14_dict_roundtrip (I : Instance) (hm : HasMachine I) :
    fromMatrices (toDict I).1 (toDict I).2 = I := by
  unfold toDict machinesMatrix
  by_cases hf : isFlexible I = true
  · rw [if_pos hf]
    exact fromMatrices_flex I
  · rw [if_neg hf]
    have hle := (not_flexible_iff I).1 (Bool.not_eq_true _ ▸ hf)
    refine rebuild_rows I (fun op => op.machines.headD 0) 0 (fun m d => ⟨[m], d⟩) fun job hj op hop => ?_
    have h1 := hle job hj op hop
    have h2 := List.length_pos_iff.2 (hm job hj op hop)
    obtain ⟨a, ha⟩ := List.length_eq_one_iff.1 (Nat.le_antisymm h1 h2)
    show (⟨[op.machines.headD 0], op.dur⟩ : Op) = op
    rw [ha, List.headD_cons, ← ha]

theorem pairsOf_flatten (l : List (Nat × Int)) :
    pairsOf ((l.map fun x => [(x.1 : Int), x.2]).flatten) = l.map fun x => ((x.1 : Int), x.2) := by
  induction l with
  | nil => rfl
  | cons a t ih => simp [pairsOf, ih]

/-- **C14 (Taillard round trip).** For every non-flexible instance, writing the Taillard rows (header row,
then one row of `machine duration` pairs per job) and reading them back reproduces the same operations. -/
theorem C14_taillard_roundtrip (I : Instance) (hn : NonFlex I) : parseTaillard (renderTaillard I) = I := by
  unfold parseTaillard renderTaillard
  simp only [List.tail_cons, List.map_map]
  conv => rhs; rw [← List.map_id I]
  apply List.map_congr_left
  intro job hj
  simp only [Function.comp_apply, id_eq]
  have : (job.map fun op => [((op.machines.headD 0 : Nat) : Int), op.dur]) =
      ((job.map fun op => (op.machines.headD 0, op.dur)).map fun x => [(x.1 : Int), x.2]) := by
    simp
  rw [this, pairsOf_flatten]
  simp only [List.map_map]
  conv => rhs; rw [← List.map_id job]
  apply List.map_congr_left
  intro op ho
  obtain ⟨a, ha⟩ := List.length_eq_one_iff.1 (hn job hj op ho)
  show (⟨[((op.machines.headD 0 : Nat) : Int).toNat], op.dur⟩ : Op) = op
  rw [ha, List.headD_cons, Int.toNat_natCast, ← ha]

/-! ## a representative view: machine loads -/

theorem getD_modify_add (l : List Int) (m k : Nat) (d : Int) (h : m < l.length) :
    (l.modify m (· + d)).getD k 0 = l.getD k 0 + (if k = m then d else 0) := by
  rw [getD_modify_eq l _ m 0 h k]
  by_cases hk : k = m
  · subst hk; simp
  · simp [hk]

theorem foldl_machines_load (d : Int) (ms : List Nat) : ∀ (acc : List Int) (k : Nat), (∀ m ∈ ms, m < acc.length) →
    ((ms.foldl (fun acc m => acc.modify m (· + d)) acc).getD k 0 = acc.getD k 0 + (ms.count k : Int) * d) ∧
    (ms.foldl (fun acc m => acc.modify m (· + d)) acc).length = acc.length := by
  induction ms with
  | nil => exact fun acc k _ => ⟨by rw [List.count_nil, Int.natCast_zero, Int.zero_mul, Int.add_zero]; rfl, rfl⟩
  | cons m t ih =>
    intro acc k h
    rw [List.foldl_cons]
    obtain ⟨h1, h2⟩ := ih (acc.modify m (· + d)) k
      (fun x hx => by rw [List.length_modify]; exact h x (List.mem_cons_of_mem _ hx))
    rw [h1, h2, getD_modify_add acc m k d (h m List.mem_cons_self), List.length_modify]
    refine ⟨?_, rfl⟩
    simp only [List.count_cons, beq_iff_eq]
    by_cases hk : k = m
    · rw [if_pos hk, if_pos hk.symm, Int.natCast_add, Int.add_mul, Int.natCast_one, Int.one_mul]
      omega
    · rw [if_neg hk, if_neg (fun e => hk e.symm), Int.add_zero, Nat.add_zero]

theorem foldl_ops_load (ops : List Op) : ∀ (acc : List Int) (k : Nat),
    (∀ op ∈ ops, ∀ m ∈ op.machines, m < acc.length) →
    (ops.foldl (fun acc op => op.machines.foldl (fun acc m => acc.modify m (· + op.dur)) acc) acc).getD k 0 =
      acc.getD k 0 + (ops.map fun op => (op.machines.count k : Int) * op.dur).sum := by
  induction ops with
  | nil => exact fun acc k _ => (Int.add_zero _).symm
  | cons op t ih =>
    intro acc k h
    rw [List.foldl_cons, List.map_cons, List.sum_cons]
    obtain ⟨h1, h2⟩ := foldl_machines_load op.dur op.machines acc k (h op List.mem_cons_self)
    rw [ih _ k (fun o ho m hm => by rw [h2]; exact h o (List.mem_cons_of_mem _ ho) m hm), h1, Int.add_assoc]

/-- **C14 (machine loads = definition).** The load of machine `k` is the sum of the durations of the
operations that can be processed on `k` (each counted once when machine lists are duplicate-free). -/
theorem C14_machineLoads (I : Instance) (k : Nat) :
    (machineLoads I).getD k 0 = (I.flatten.map fun op => (op.machines.count k : Int) * op.dur).sum := by
  unfold machineLoads
  rw [foldl_ops_load I.flatten _ k]
  · simp only [List.getD_eq_getElem?_getD, List.getElem?_replicate]
    split <;> simp
  · intro op ho m hm
    simp only [List.length_replicate]
    obtain ⟨job, hjob, hop⟩ := List.mem_flatten.1 ho
    have h1 : m + 1 ≤ opMax op := foldl_max_mem (fun m => m + 1) op.machines 0 m hm
    have h2 : opMax op ≤ jobMax job := foldl_max_mem opMax job 0 op hop
    have h3 : jobMax job ≤ numMachines I := foldl_max_mem jobMax I 0 job hjob
    omega

/-! ## job sequences

The three nested loops of `from_job_sequences` change the state only through `dispatch`, called with the next operation
of the job at the head of a machine's queue, on that machine.  `jobSeqPassFrom_induct` and `fromJobSequences_induct`
say this once; what is proved of the loops afterwards is an invariant of those calls. -/

section
variable {I : Instance}

theorem jobSeqMachine_nil {m : Nat} {d : List (List Nat)} {t : State} {pr : Bool} (h : d.getD m [] = []) :
    jobSeqMachine I m d t pr = .ok (d, t, pr) := by
  rw [jobSeqMachine, h]

theorem jobSeqMachine_cons {m j : Nat} {rest : List Nat} {d : List (List Nat)} {t : State} {pr : Bool} {op : Op}
    (h : d.getD m [] = j :: rest) (hop : getOp I j (t.jobIdx.getD j 0) = some op) :
    jobSeqMachine I m d t pr =
      if op.machines.contains m then
        match dispatch I t j (t.jobIdx.getD j 0) m with
        | .ok t' => .ok (d.set m rest, t', true)
        | .error _ => .error .dispatchError
      else .ok (d, t, pr) := by
  rw [jobSeqMachine, h]
  simp only [hop]
  rfl

theorem jobSeqMachine_cases (I : Instance) (m : Nat) (d : List (List Nat)) (t : State) (pr : Bool) :
    jobSeqMachine I m d t pr = .ok (d, t, pr) ∨ jobSeqMachine I m d t pr = .error .indexError ∨
    ∃ j rest op, d.getD m [] = j :: rest ∧ getOp I j (t.jobIdx.getD j 0) = some op ∧ m ∈ op.machines ∧
      jobSeqMachine I m d t pr =
        match dispatch I t j (t.jobIdx.getD j 0) m with
        | .ok t' => .ok (d.set m rest, t', true)
        | .error _ => .error .dispatchError := by
  cases hd : d.getD m [] with
  | nil => exact .inl (jobSeqMachine_nil hd)
  | cons j rest =>
    cases hop : getOp I j (t.jobIdx.getD j 0) with
    | none =>
      refine .inr (.inl ?_)
      rw [jobSeqMachine, hd]
      simp only [hop]
    | some op =>
      rw [jobSeqMachine_cons hd hop]
      by_cases hm : op.machines.contains m = true
      · rw [if_pos hm]
        exact .inr (.inr ⟨j, rest, op, rfl, hop, List.contains_iff_mem.1 hm, rfl⟩)
      · rw [if_neg hm]
        exact .inl rfl

/-- One pass over the machines `ms`.  `P` is kept by every accepted `dispatch` the pass makes (which sets the progress
flag); a refused one proves `E`.  Then `P` holds of the result, and an exception is the index error or, given `E`, the
dispatch error. -/
theorem jobSeqPassFrom_induct {P : List (List Nat) → State → Bool → Prop} {E : Prop}
    (step : ∀ d t pr m j rest op, P d t pr → d.getD m [] = j :: rest → getOp I j (t.jobIdx.getD j 0) = some op →
      m ∈ op.machines → (∀ t', dispatch I t j (t.jobIdx.getD j 0) m = .ok t' → P (d.set m rest) t' true) ∧
        (∀ e, dispatch I t j (t.jobIdx.getD j 0) m = .error e → E)) :
    ∀ (ms : List Nat) (d : List (List Nat)) (t : State) (pr : Bool), P d t pr →
      (∀ r, jobSeqPassFrom I ms d t pr = .ok r → P r.1 r.2.1 r.2.2) ∧
      (∀ e, jobSeqPassFrom I ms d t pr = .error e → e = .indexError ∨ e = .dispatchError ∧ E) := by
  intro ms
  induction ms with
  | nil => exact fun d t pr hP => ⟨fun r h => by cases h; exact hP, fun _ h => (by cases h)⟩
  | cons m ms ih =>
    intro d t pr hP
    rw [jobSeqPassFrom]
    rcases jobSeqMachine_cases I m d t pr with h | h | ⟨j, rest, op, hd, hop, hmem, h⟩
    · rw [h]
      exact ih d t pr hP
    · rw [h]
      exact ⟨fun _ h => (by cases h), fun _ h => .inl (Except.error.inj h).symm⟩
    · obtain ⟨hok, herr⟩ := step d t pr m j rest op hP hd hop hmem
      rw [h]
      cases hdisp : dispatch I t j (t.jobIdx.getD j 0) m with
      | ok t' => exact ih (d.set m rest) t' true (hok t' hdisp)
      | error e' => exact ⟨fun _ h => (by cases h), fun _ h => .inr ⟨(Except.error.inj h).symm, herr e' hdisp⟩⟩

theorem fromJobSequences_of_complete {fuel : Nat} {d : List (List Nat)} {t : State} (h : isComplete I t = true) :
    fromJobSequences I fuel d t = .ok t := by
  cases fuel <;> simp only [fromJobSequences, h, ↓reduceIte]

theorem fromJobSequences_succ {fuel : Nat} {d : List (List Nat)} {t : State} (h : isComplete I t = false) :
    fromJobSequences I (fuel + 1) d t =
      match jobSeqPass I d t with
      | .error e => e
      | .ok (d', t', pr) => if pr then fromJobSequences I fuel d' t' else .validationError := by
  rw [fromJobSequences]
  simp only [h, Bool.false_eq_true, ↓reduceIte]
  rfl

/-- The whole loop, for an invariant `P` of the queues and the state: a returned schedule is complete and satisfies `P`;
the dispatch error is raised only where a `dispatch` was refused. -/
theorem fromJobSequences_induct {P : List (List Nat) → State → Prop} {E : Prop}
    (step : ∀ d t m j rest op, P d t → d.getD m [] = j :: rest → getOp I j (t.jobIdx.getD j 0) = some op →
      m ∈ op.machines → (∀ t', dispatch I t j (t.jobIdx.getD j 0) m = .ok t' → P (d.set m rest) t') ∧
        (∀ e, dispatch I t j (t.jobIdx.getD j 0) m = .error e → E)) :
    ∀ (fuel : Nat) (d : List (List Nat)) (t : State), P d t →
      (∀ s', fromJobSequences I fuel d t = .ok s' → isComplete I s' = true ∧ ∃ d', P d' s') ∧
      (fromJobSequences I fuel d t = .dispatchError → E) := by
  intro fuel
  induction fuel with
  | zero =>
    intro d t hP
    cases hc : isComplete I t with
    | true =>
      rw [fromJobSequences_of_complete hc]
      exact ⟨fun s' h => by cases h; exact ⟨hc, d, hP⟩, fun h => (by cases h)⟩
    | false =>
      simp only [fromJobSequences, hc, Bool.false_eq_true, ↓reduceIte]
      exact ⟨fun _ h => (by cases h), fun h => (by cases h)⟩
  | succ fuel ih =>
    intro d t hP
    cases hc : isComplete I t with
    | true =>
      rw [fromJobSequences_of_complete hc]
      exact ⟨fun s' h => by cases h; exact ⟨hc, d, hP⟩, fun h => (by cases h)⟩
    | false =>
      rw [fromJobSequences_succ hc]
      obtain ⟨hok, herr⟩ := jobSeqPassFrom_induct (P := fun d t _ => P d t) (fun d t _ => step d t)
        (List.range d.length) d t false hP
      cases hp : jobSeqPass I d t with
      | error e =>
        simp only
        refine ⟨fun s' h => ?_, fun h => ?_⟩
        · subst h; rcases herr _ hp with h | ⟨h, _⟩ <;> cases h
        · subst h; rcases herr _ hp with h | ⟨_, h⟩
          · cases h
          · exact h
      | ok r =>
        obtain ⟨d1, t1, pr1⟩ := r
        cases pr1 with
        | true => simp only [↓reduceIte]; exact ih d1 t1 (hok _ hp)
        | false => simp only [Bool.false_eq_true, ↓reduceIte]; exact ⟨fun _ h => (by cases h), fun h => (by cases h)⟩

end

/-- **C14 (job sequences: any accepted result is a reachable schedule).** From a reachable state, whatever the
sequences, if `from_job_sequences` returns a schedule then that schedule satisfies the dispatcher invariant —
hence is feasible (C01) — and is complete; and the method never fails inside `dispatch`. -/
theorem C14_seq_result_reachable {I : Instance} (hv : Valid I) : ∀ (fuel : Nat) (deques : List (List Nat)) (s : State),
    CInv I s →
    (∀ s', fromJobSequences I fuel deques s = .ok s' → CInv I s' ∧ Feasible I s'.sched ∧ isComplete I s' = true) ∧
    fromJobSequences I fuel deques s ≠ .dispatchError := by
  intro fuel deques s hc
  obtain ⟨hok, herr⟩ := fromJobSequences_induct (P := fun _ t => CInv I t) (E := False)
    (fun d t m j rest op hc _ hop hm => by
      refine ⟨fun t' ht' => ?_, fun e he => ?_⟩
      · obtain ⟨op', hsp⟩ := dispatch_ok ht'
        exact cinv_dispatch (hv _ _ op' hsp.hop).2.2 hc hsp
      · obtain ⟨t', ht'⟩ := dispatch_accepts hc hop rfl hm
        rw [ht'] at he; cases he) fuel deques s hc
  refine ⟨fun s' h => ?_, herr⟩
  obtain ⟨hcomp, _, hc'⟩ := hok s' h
  exact ⟨hc', feasible_of_cinv hc', hcomp⟩

/-- with fuel above the number of operations still to place, the fuel does not run out: a pass that reports progress
has placed an operation -/
theorem seq_fuel_ok {I : Instance} (hv : Valid I) : ∀ (fuel : Nat) (deques : List (List Nat)) (s : State), CInv I s →
    numOps I - numScheduled s < fuel → fromJobSequences I fuel deques s ≠ .fuel := by
  intro fuel
  induction fuel with
  | zero => exact fun _ _ _ h => absurd h (Nat.not_lt_zero _)
  | succ fuel ih =>
    intro d s hc hlt
    cases hcomp : isComplete I s with
    | true => rw [fromJobSequences_of_complete hcomp]; intro h; cases h
    | false =>
      rw [fromJobSequences_succ hcomp]
      obtain ⟨hok, herr⟩ := jobSeqPassFrom_induct (E := True)
        (P := fun _ t pr => CInv I t ∧ numScheduled s + pr.toNat ≤ numScheduled t)
        (fun d t pr m j rest op hP _ _ _ => by
          refine ⟨fun t' ht' => ?_, fun _ _ => trivial⟩
          obtain ⟨op', hsp⟩ := dispatch_ok ht'
          refine ⟨cinv_dispatch (hv _ _ op' hsp.hop).2.2 hP.1 hsp, ?_⟩
          rw [numScheduled_dispatch hP.1.wf ht']
          exact Nat.succ_le_succ (Nat.le_trans (Nat.le_add_right _ _) hP.2))
        (List.range d.length) d s false ⟨hc, Nat.le_refl _⟩
      cases hp : jobSeqPass I d s with
      | error e => rcases herr _ hp with h | ⟨h, _⟩ <;> subst h <;> intro h <;> cases h
      | ok r =>
        obtain ⟨d1, s1, pr1⟩ := r
        cases pr1 with
        | false => intro h; cases h
        | true =>
          obtain ⟨hc1, hg⟩ := hok _ hp
          have hg : numScheduled s + 1 ≤ numScheduled s1 := hg
          have := lt_numOps_of_incomplete hc hcomp
          exact ih d1 s1 hc1 (by omega)

/-- **C14 (job sequences: never a hang).** Started on a fresh dispatcher with `num_operations + 1` iterations of
the outer loop as fuel, `from_job_sequences` never runs out of fuel: every iteration either finishes, raises, or
schedules at least one more operation. -/
theorem C14_seq_terminates (I : Instance) (hv : Valid I) (deques : List (List Nat)) :
    fromJobSequences I (numOps I + 1) deques (init I) ≠ .fuel :=
  seq_fuel_ok hv _ deques (init I) (cinv_init I) (by simp [numScheduled, init])

/-! non-vacuity -/
example : fromMatrices (toDict exampleInstance).1 (toDict exampleInstance).2 = exampleInstance := by decide +kernel
example : parseTaillard (renderTaillard [[⟨[1], 3⟩, ⟨[0], 0⟩], [⟨[0], 2⟩]]) = [[⟨[1], 3⟩, ⟨[0], 0⟩], [⟨[0], 2⟩]] := by decide +kernel
def cyclicInstance : Instance := [[⟨[0], 1⟩, ⟨[1], 1⟩], [⟨[1], 1⟩, ⟨[0], 1⟩]]
example : fromJobSequences cyclicInstance 5 [[1, 0], [0, 1]] (init cyclicInstance) = .validationError := by decide +kernel

end JS
