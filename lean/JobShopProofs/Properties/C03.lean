import JobShopProofs.CpLemmas
/-!
# C03 — the CP-SAT solver returns feasible, truly optimal schedules

What is proved here is about the model `ORToolsSolver` hands to CP-SAT and about the schedule it reads back:

* **sound**: every solution of the generated model is a feasible complete assignment (`FeasT`, the declarative notion
  C08 uses) finishing by the objective value, and reading it back the way `_create_schedule` does (per machine, sorted
  by `(start, end)`) passes the `Schedule` constructor's check — also with zero-duration operations;
* **complete**: every feasible complete assignment finishing within the horizon is a solution with objective at most
  its completion time; when the instance has an operation a solution always exists (the horizon `total_duration` is
  large enough), so "no solution" can only come from a time limit;
* hence the optimum of the model is the true optimum, is at most the makespan of every dispatcher-built schedule, and
  at least every job's length and every machine's load.

Trusted: CP-SAT (a returned solution satisfies the model; `OPTIMAL` means no solution has a smaller objective) and the
constraint semantics `CpCon.holds` transcribed from `cp_model.proto`.
-/
namespace JS

/-- one eligible machine per operation -/
def NonFlexI (I : Instance) : Prop := ∀ j p op, getOp I j p = some op → ∃ m, op.machines = [m]

/-- the assignment a solution encodes -/
def asgOfSol (I : Instance) (v : Nat → Int) : Asg :=
  { mach := fun j p => machOf I (j, p), st := fun j p => v (startVar I (j, p)) }

theorem machOf_eq {I : Instance} {j p : Nat} {op : Op} (h : getOp I j p = some op) :
    machOf I (j, p) = op.machines.headD 0 := by simp [machOf, h]

theorem machOf_mem {I : Instance} (hn : NonFlexI I) {j p : Nat} {op : Op} (hop : getOp I j p = some op) :
    machOf I (j, p) ∈ op.machines := by
  obtain ⟨m, hm⟩ := hn j p op hop
  rw [machOf_eq hop, hm]
  exact List.mem_singleton_self m

theorem durOf_eq {I : Instance} {j p : Nat} {op : Op} (h : getOp I j p = some op) : durOf I (j, p) = op.dur := by
  simp [durOf, h]

theorem durOf_nonneg {I : Instance} (hv : Valid I) {r : OpRef} (h : r ∈ allOps I) : 0 ≤ durOf I r := by
  obtain ⟨op, hop⟩ := getOp_of_mem_allOps h
  simp only [durOf, hop]
  exact (hv r.1 r.2 op hop).2.2

theorem machOf_lt {I : Instance} (hn : NonFlexI I) {r : OpRef} (h : r ∈ allOps I) : machOf I r < numMachines I := by
  obtain ⟨op, hop⟩ := getOp_of_mem_allOps h
  obtain ⟨m, hm⟩ := hn r.1 r.2 op hop
  simp only [machOf, hop, hm, List.headD_cons]
  exact machine_lt I r.1 r.2 m op hop (by rw [hm]; exact List.mem_singleton_self m)

theorem sat_dom {I : Instance} {v : Nat → Int} (hs : (cpModel I).Sat v) {i : Nat} (hi : i < 2 * numOps I + 1) :
    0 ≤ v i ∧ v i ≤ totalDuration I :=
  hs.dom i _ (cp_dom I i hi)

theorem sat_op {I : Instance} {v : Nat → Int} (hs : (cpModel I).Sat v) {r : OpRef} (h : r ∈ allOps I) :
    v (endVar I r) = v (startVar I r) + durOf I r ∧ 0 ≤ v (startVar I r) ∧ v (endVar I r) ≤ totalDuration I :=
  ⟨holds_endEq.1 (hs.con _ (cp_mem_endEq h)), (sat_dom hs (Nat.lt_succ_of_lt (startVar_lt h))).1,
    (sat_dom hs (Nat.lt_succ_of_lt (endVar_lt h))).2⟩

theorem sat_prec {I : Instance} {v : Nat → Int} (hs : (cpModel I).Sat v) {j p : Nat} (h : (j, p + 1) ∈ allOps I) :
    v (endVar I (j, p)) ≤ v (startVar I (j, p + 1)) :=
  holds_prec.1 (hs.con _ (cp_mem_prec h))

theorem sat_end {I : Instance} {v : Nat → Int} (hs : (cpModel I).Sat v) {j p : Nat} {op : Op}
    (hop : getOp I j p = some op) : (asgOfSol I v).st j p + op.dur = v (endVar I (j, p)) := by
  rw [← durOf_eq hop]
  exact (sat_op hs (mem_allOps_of_getOp hop)).1.symm

theorem sat_makespan_nonneg {I : Instance} {v : Nat → Int} (hs : (cpModel I).Sat v) : 0 ≤ v (makespanVar I) :=
  (hs.dom (makespanVar I) _ (cp_dom I _ (by simp [makespanVar]))).1

theorem sat_linMax {I : Instance} {v : Nat → Int} (hs : (cpModel I).Sat v) :
    (∀ r ∈ allOps I, v (endVar I r) ≤ v (makespanVar I)) ∧ ∃ r ∈ allOps I, v (endVar I r) = v (makespanVar I) := by
  have hmax := hs.con _ (cp_mem_linMax I)
  simp only [CpCon.holds, List.mem_map, forall_exists_index, and_imp, forall_apply_eq_imp_iff₂] at hmax
  obtain ⟨h1, e, ⟨r, hr, rfl⟩, he⟩ := hmax
  exact ⟨h1, r, hr, he⟩

theorem sat_disjoint {I : Instance} (hv : Valid I) {v : Nat → Int} (hs : (cpModel I).Sat v) {m : Nat}
    (hm : m < numMachines I) :
    (opsOn I m).Pairwise fun a b => v (endVar I a) ≤ v (startVar I b) ∨ v (endVar I b) ≤ v (startVar I a) := by
  have h1 := hs.con _ (cp_mem_noOverlap hm)
  simp only [CpCon.holds, NoOverlap] at h1
  obtain ⟨order, hperm, hcons⟩ := h1
  have hmem : ∀ a ∈ order, v a.1 ≤ v a.2.2 := by
    intro a ha
    obtain ⟨r, hr, rfl⟩ := List.mem_map.1 (hperm.mem_iff.1 ha)
    show v (startVar I r) ≤ v (endVar I r)
    rw [(sat_op hs (mem_opsOn.1 hr).1).1]
    exact Int.le_add_of_nonneg_right (durOf_nonneg hv (mem_opsOn.1 hr).1)
  have hpw := consec_pairwise (fun a : Itv => v a.1) (fun a => v a.2.2) order hmem hcons
  exact List.pairwise_map.1 ((hperm.pairwise_iff (fun {a b} h => Or.symm h)).1
    (hpw.imp (S := fun a b : Itv => v a.2.2 ≤ v b.1 ∨ v b.2.2 ≤ v a.1) Or.inl))

/-- **C03 (every solution is a feasible complete schedule).** For a valid non-flexible instance (durations `≥ 0`),
every solution of the generated model assigns every operation its machine and a start time such that: no start is
negative, operations of a job run in order without overlap, operations sharing a machine do not overlap — and every
operation ends by the value of the objective variable, which is attained by some operation. -/
theorem C03_solution_feasible (I : Instance) (hv : Valid I) (hn : NonFlexI I) (v : Nat → Int) (hs : (cpModel I).Sat v) :
    FeasT I (asgOfSol I v) ∧ BoundT I (asgOfSol I v) (v (makespanVar I)) ∧
    (∃ r ∈ allOps I, v (startVar I r) + durOf I r = v (makespanVar I)) := by
  have hmax := sat_linMax hs
  refine ⟨⟨?_, ?_, ?_, ?_⟩, ?_, ?_⟩
  · intro j p op hop
    exact machOf_mem hn hop
  · intro j p op hop
    exact (sat_op hs (mem_allOps_of_getOp hop)).2.1
  · intro j p op op' hop hop'
    rw [sat_end hs hop]
    exact sat_prec hs (mem_allOps_of_getOp hop')
  · intro j p op j' p' op' hop hop' hne hmach
    rw [sat_end hs hop, sat_end hs hop']
    have hpw := sat_disjoint hv hs (machOf_lt hn (mem_allOps_of_getOp hop))
    have ha : (j, p) ∈ opsOn I (machOf I (j, p)) := mem_opsOn.2 ⟨mem_allOps_of_getOp hop, rfl⟩
    have hb : (j', p') ∈ opsOn I (machOf I (j, p)) := mem_opsOn.2 ⟨mem_allOps_of_getOp hop', hmach.symm⟩
    exact (pairwise_either hpw _ ha _ hb hne).elim id Or.symm
  · intro j p op hop
    rw [sat_end hs hop]
    exact hmax.1 (j, p) (mem_allOps_of_getOp hop)
  · obtain ⟨r, hr, he⟩ := hmax.2
    exact ⟨r, hr, by rw [← he, (sat_op hs hr).1]⟩

theorem sopOf_end {I : Instance} {v : Nat → Int} (hs : (cpModel I).Sat v) {r : OpRef} (h : r ∈ allOps I) :
    (sopOf I v r).end_ = v (endVar I r) := by
  simp only [SOp.end_, sopOf]; rw [(sat_op hs h).1]

theorem mem_sortSOps_opsOn {I : Instance} {v : Nat → Int} {m : Nat} {a : SOp} :
    a ∈ sortSOps ((opsOn I m).map (sopOf I v)) ↔ ∃ r ∈ opsOn I m, sopOf I v r = a := by
  rw [(sortSOps_spec _).1.mem_iff, List.mem_map]

theorem cpSchedule_machine_ordered {I : Instance} (hv : Valid I) {v : Nat → Int} (hs : (cpModel I).Sat v) {m : Nat}
    (hm : m < numMachines I) :
    (sortSOps ((opsOn I m).map (sopOf I v))).Pairwise (fun a b => a.end_ ≤ b.start) := by
  refine sortSOps_ordered (fun a ha => ?_) ?_
  · obtain ⟨r, hr, rfl⟩ := List.mem_map.1 ha
    exact durOf_nonneg hv (mem_opsOn.1 hr).1
  · rw [List.pairwise_map]
    refine (sat_disjoint hv hs hm).imp_of_mem fun {a b} ha hb h => ?_
    simp only [Disj, sopOf_end hs (mem_opsOn.1 ha).1, sopOf_end hs (mem_opsOn.1 hb).1]
    exact h

theorem pairwise_zip_tail {α} (R : α → α → Prop) (l : List α) (hp : l.Pairwise R) :
    ∀ ab ∈ l.zip l.tail, R ab.1 ab.2 := by
  induction hp with
  | nil => exact fun _ h => nomatch h
  | @cons a t hx _ ih =>
    cases t with
    | nil => exact fun _ h => nomatch h
    | cons b t =>
      intro ab h
      rcases List.mem_cons.1 h with rfl | h
      · exact hx b List.mem_cons_self
      · exact ih ab h

theorem mem_cpSchedule {I : Instance} {v : Nat → Int} {ms : List SOp} (h : ms ∈ cpSchedule I v) :
    ∃ m < numMachines I, ms = sortSOps ((opsOn I m).map (sopOf I v)) := by
  simp only [cpSchedule, List.mem_map, List.mem_range] at h
  obtain ⟨m, hm, rfl⟩ := h
  exact ⟨m, hm, rfl⟩

/-- **C03 (the schedule is accepted and reports its own makespan).** For every solution, `_create_schedule`'s
per-machine lists sorted by `(start, end)` pass the `Schedule` constructor's check (so no `ValidationError`, also with
zero-duration operations that share a start time with another operation), and `Schedule.makespan()` of the result is
the value of the objective variable that is written into the metadata. -/
theorem C03_schedule_accepted (I : Instance) (hv : Valid I) (hn : NonFlexI I) (v : Nat → Int) (hs : (cpModel I).Sat v) :
    cpResult I v = some (cpSchedule I v, v (makespanVar I)) ∧
    scheduleMakespan (cpSchedule I v) = v (makespanVar I) ∧
    ∀ ms ∈ cpSchedule I v, ms.Pairwise (fun a b => a.end_ ≤ b.start) := by
  have hord : ∀ ms ∈ cpSchedule I v, ms.Pairwise (fun a b => a.end_ ≤ b.start) := by
    intro ms hms
    obtain ⟨m, hm, rfl⟩ := mem_cpSchedule hms
    exact cpSchedule_machine_ordered hv hs hm
  have hmax := sat_linMax hs
  refine ⟨?_, ?_, hord⟩
  · unfold cpResult
    have : scheduleCheck (cpSchedule I v) = true := by
      simp only [scheduleCheck, List.all_eq_true, decide_eq_true_eq]
      intro ms hms ab hab
      exact pairwise_zip_tail _ ms (hord ms hms) ab hab
    simp only [this, ↓reduceIte]
  · apply Int.le_antisymm
    · rcases foldl_last_attained (cpSchedule I v) 0 with h0 | ⟨ms, hms, l, hl, he⟩
      · unfold scheduleMakespan; rw [h0]; exact sat_makespan_nonneg hs
      · unfold scheduleMakespan; rw [← he]
        obtain ⟨m, hm, rfl⟩ := mem_cpSchedule hms
        obtain ⟨r, hr, rfl⟩ := mem_sortSOps_opsOn.1 (List.mem_of_getLast? hl)
        rw [sopOf_end hs (mem_opsOn.1 hr).1]
        exact hmax.1 r (mem_opsOn.1 hr).1
    · obtain ⟨r, hr, he⟩ := hmax.2
      rw [← he, ← sopOf_end hs hr]
      -- r sits on its machine's list; the last entry of that list ends no earlier
      have hm := machOf_lt hn hr
      have hmem : sopOf I v r ∈ sortSOps ((opsOn I (machOf I r)).map (sopOf I v)) :=
        mem_sortSOps_opsOn.2 ⟨r, mem_opsOn.2 ⟨hr, rfl⟩, rfl⟩
      cases hl : (sortSOps ((opsOn I (machOf I r)).map (sopOf I v))).getLast? with
      | none => rw [List.getLast?_eq_none_iff.1 hl] at hmem; cases hmem
      | some l =>
        obtain ⟨r', hr', rfl⟩ := mem_sortSOps_opsOn.1 (List.mem_of_getLast? hl)
        exact Int.le_trans
          (end_le_last _ _ _ (cpSchedule_machine_ordered hv hs hm) (durOf_nonneg hv (mem_opsOn.1 hr').1) hl hmem)
          (foldl_last_mem (cpSchedule I v) 0 _ _ (List.mem_map.2 ⟨_, List.mem_range.2 hm, rfl⟩) hl)

def maxEnd (I : Instance) (T : Asg) : Int := ((allOps I).map fun r => T.st r.1 r.2 + durOf I r).foldl max 0

/-- the solution that encodes an assignment -/
def solOf (I : Instance) (T : Asg) (i : Nat) : Int :=
  if i = makespanVar I then maxEnd I T else
  let r := (allOps I).getD (i / 2) (0, 0)
  if i % 2 = 0 then T.st r.1 r.2 else T.st r.1 r.2 + durOf I r

theorem maxEnd_spec (I : Instance) (T : Asg) :
    (maxEnd I T = 0 ∨ ∃ r ∈ allOps I, maxEnd I T = T.st r.1 r.2 + durOf I r) ∧ 0 ≤ maxEnd I T ∧
      ∀ r ∈ allOps I, T.st r.1 r.2 + durOf I r ≤ maxEnd I T := by
  obtain ⟨hmem, hle⟩ := List.max?_eq_some_iff.1
    (List.max?_cons' (x := (0 : Int)) (xs := (allOps I).map fun r => T.st r.1 r.2 + durOf I r))
  refine ⟨?_, hle 0 List.mem_cons_self, fun r hr => hle _ (List.mem_cons_of_mem _ (List.mem_map_of_mem hr))⟩
  rcases List.mem_cons.1 hmem with h | h
  · exact .inl h
  · obtain ⟨r, hr, he⟩ := List.mem_map.1 h
    exact .inr ⟨r, hr, he.symm⟩

theorem solOf_mk (I : Instance) (T : Asg) : solOf I T (makespanVar I) = maxEnd I T := by
  rw [solOf, if_pos rfl]

theorem solOf_var {I : Instance} (T : Asg) {k : Nat} {r : OpRef} (hk : k < numOps I) (hg : (allOps I)[k]? = some r) :
    solOf I T (2 * k) = T.st r.1 r.2 ∧ solOf I T (2 * k + 1) = T.st r.1 r.2 + durOf I r := by
  have h0 : 2 * k ≠ makespanVar I := fun e => Nat.ne_of_lt hk (Nat.eq_of_mul_eq_mul_left (by decide) e)
  have h1 : 2 * k + 1 ≠ makespanVar I := fun e => by
    -- odd against even
    have := congrArg (· % 2) e
    simp only [makespanVar, Nat.mul_add_mod, Nat.mul_mod_right] at this
    cases this
  have e0 : 2 * k / 2 = k := Nat.mul_div_cancel_left k (by decide)
  have e1 : (2 * k + 1) / 2 = k := Nat.mul_add_div (by decide) k 1
  unfold solOf
  rw [if_neg h0, if_neg h1]
  simp only [e0, e1, Nat.mul_mod_right, Nat.mul_add_mod, ↓reduceIte, List.getD_eq_getElem?_getD, hg, Option.getD_some,
    Nat.one_mod, Nat.one_ne_zero, and_self]

theorem solOf_start {I : Instance} (T : Asg) {r : OpRef} (h : r ∈ allOps I) : solOf I T (startVar I r) = T.st r.1 r.2 :=
  (solOf_var T (opId_lt h) (allOps_getElem_opId h)).1

theorem solOf_end {I : Instance} (T : Asg) {r : OpRef} (h : r ∈ allOps I) :
    solOf I T (endVar I r) = T.st r.1 r.2 + durOf I r :=
  (solOf_var T (opId_lt h) (allOps_getElem_opId h)).2

section
variable {I : Instance} {T : Asg}

theorem feasT_start_nonneg (hT : FeasT I T) {r : OpRef} (h : r ∈ allOps I) : 0 ≤ T.st r.1 r.2 := by
  obtain ⟨op, hop⟩ := getOp_of_mem_allOps h
  exact hT.nonneg r.1 r.2 op hop

theorem boundT_end_le {B : Int} (hB : BoundT I T B) {r : OpRef} (h : r ∈ allOps I) : T.st r.1 r.2 + durOf I r ≤ B := by
  obtain ⟨op, hop⟩ := getOp_of_mem_allOps h
  simp only [durOf, hop]
  exact hB r.1 r.2 op hop

theorem maxEnd_le {B : Int} (hB : BoundT I T B) (hB0 : 0 ≤ B) : maxEnd I T ≤ B := by
  rcases (maxEnd_spec I T).1 with h | ⟨r, hr, h⟩
  · rw [h]; exact hB0
  · rw [h]; exact boundT_end_le hB hr

theorem var_cases {i : Nat} (h : i < 2 * numOps I) : ∃ r ∈ allOps I, i = startVar I r ∨ i = endVar I r := by
  have hk : i / 2 < (allOps I).length := by rw [length_allOps]; omega
  refine ⟨(allOps I)[i / 2], List.getElem_mem hk, ?_⟩
  simp only [startVar, endVar, opId_getElem_allOps hk]
  omega

theorem solOf_dom (hv : Valid I) (hT : FeasT I T) {B : Int} (hB : BoundT I T B) (hH : B ≤ totalDuration I)
    (hB0 : 0 ≤ B) {i : Nat} (hi : i < 2 * numOps I + 1) : 0 ≤ solOf I T i ∧ solOf I T i ≤ totalDuration I := by
  by_cases hmk : i = makespanVar I
  · rw [hmk, solOf_mk]
    exact ⟨(maxEnd_spec I T).2.1, Int.le_trans (maxEnd_le hB hB0) hH⟩
  · obtain ⟨r, hr, rfl | rfl⟩ := var_cases (I := I) (i := i) (by simp only [makespanVar] at hmk; omega)
    · rw [solOf_start T hr]
      exact ⟨feasT_start_nonneg hT hr,
        Int.le_trans (Int.le_add_of_nonneg_right (durOf_nonneg hv hr)) (Int.le_trans (boundT_end_le hB hr) hH)⟩
    · rw [solOf_end T hr]
      exact ⟨Int.add_nonneg (feasT_start_nonneg hT hr) (durOf_nonneg hv hr), Int.le_trans (boundT_end_le hB hr) hH⟩

/-- read back per machine and sorted by `(start, end)`, a feasible assignment gives the witness `AddNoOverlap` asks for -/
theorem solOf_noOverlap (hv : Valid I) (hT : FeasT I T)
    (hmach : ∀ j p op, getOp I j p = some op → T.mach j p = machOf I (j, p)) (m : Nat) :
    NoOverlap (solOf I T) ((opsOn I m).map (itvOf I)) := by
  have hord : (sortSOps ((opsOn I m).map (sopOf I (solOf I T)))).Pairwise (fun a b => a.end_ ≤ b.start) := by
    refine sortSOps_ordered (fun a ha => ?_) ?_
    · obtain ⟨r, hr, rfl⟩ := List.mem_map.1 ha
      exact durOf_nonneg hv (mem_opsOn.1 hr).1
    · rw [List.pairwise_map]
      refine ((nodup_allOps I).filter _).imp_of_mem fun {a b} ha hb hab => ?_
      obtain ⟨opa, hopa⟩ := getOp_of_mem_allOps (mem_opsOn.1 ha).1
      obtain ⟨opb, hopb⟩ := getOp_of_mem_allOps (mem_opsOn.1 hb).1
      have hm : T.mach a.1 a.2 = T.mach b.1 b.2 := by
        rw [hmach _ _ _ hopa, hmach _ _ _ hopb]
        exact (mem_opsOn.1 ha).2.trans (mem_opsOn.1 hb).2.symm
      have := hT.disj a.1 a.2 opa b.1 b.2 opb hopa hopb hab hm
      simp only [Disj, SOp.end_, sopOf, solOf_start T (mem_opsOn.1 ha).1, solOf_start T (mem_opsOn.1 hb).1, durOf, hopa, hopb]
      exact this
  have hperm := (sortSOps_spec ((opsOn I m).map (sopOf I (solOf I T)))).1
  refine ⟨(sortSOps ((opsOn I m).map (sopOf I (solOf I T)))).map (fun x => itvOf I (x.job, x.pos)), ?_, ?_⟩
  · have := hperm.map (fun x : SOp => itvOf I (x.job, x.pos))
    rw [List.map_map] at this
    exact this
  · apply pairwise_consec
    rw [List.pairwise_map]
    refine hord.imp_of_mem ?_
    intro a b ha hb hab
    obtain ⟨ra, hra, rfl⟩ := mem_sortSOps_opsOn.1 ha
    obtain ⟨rb, hrb, rfl⟩ := mem_sortSOps_opsOn.1 hb
    simp only [itvOf, sopOf, solOf_end T (mem_opsOn.1 hra).1, solOf_start T (mem_opsOn.1 hrb).1]
    simp only [SOp.end_, sopOf, solOf_start T (mem_opsOn.1 hra).1, solOf_start T (mem_opsOn.1 hrb).1] at hab
    exact hab

end

/-- **C03 (every feasible schedule within the horizon is a solution).** A feasible complete assignment that uses
each operation's machine and finishes by `B ≤ total_duration`, `0 ≤ B`, of an instance with at least one operation, is
a solution of the generated model whose objective value is at most `B`. -/
theorem C03_feasible_is_solution (I : Instance) (hv : Valid I) (T : Asg) (hT : FeasT I T)
    (hmach : ∀ j p op, getOp I j p = some op → T.mach j p = machOf I (j, p))
    (B : Int) (hB : BoundT I T B) (hH : B ≤ totalDuration I) (hB0 : 0 ≤ B) (hne : 0 < numOps I) :
    (cpModel I).Sat (solOf I T) ∧ solOf I T (makespanVar I) ≤ B := by
  refine ⟨⟨?_, ?_⟩, by rw [solOf_mk]; exact maxEnd_le hB hB0⟩
  · intro i lh hi
    obtain ⟨hlt, rfl⟩ := cp_dom_some hi
    exact solOf_dom hv hT hB hH hB0 hlt
  · intro c hc
    rcases cp_cons_cases hc with ⟨r, hr, rfl⟩ | ⟨⟨j, p⟩, hr, hp, rfl⟩ | ⟨m, hm, r, hr, rfl⟩ | ⟨m, hm, rfl⟩ | rfl
    · exact holds_endEq.2 (by rw [solOf_start T hr, solOf_end T hr])
    · obtain ⟨q, rfl⟩ := Nat.exists_eq_add_one_of_ne_zero hp
      obtain ⟨op, hop⟩ := getOp_of_mem_allOps hr
      obtain ⟨op', hop'⟩ := getOp_pred I j q op hop
      refine holds_prec.2 ?_
      show solOf I T (endVar I (j, q)) ≤ solOf I T (startVar I (j, q + 1))
      rw [solOf_start T hr, solOf_end T (mem_allOps_of_getOp hop'), durOf_eq hop']
      exact hT.prec j q op' op hop' hop
    · have hr' := (mem_opsOn.1 hr).1
      show solOf I T (startVar I r) + durOf I r = solOf I T (endVar I r)
      rw [solOf_start T hr', solOf_end T hr']
    · exact solOf_noOverlap hv hT hmach m
    · obtain ⟨hatt, _, hge⟩ := maxEnd_spec I T
      simp only [CpCon.holds, List.mem_map, forall_exists_index, and_imp, forall_apply_eq_imp_iff₂, solOf_mk]
      refine ⟨fun r hr => by rw [solOf_end T hr]; exact hge r hr, ?_⟩
      rcases hatt with h | ⟨r, hr, h⟩
      · -- the maximum is 0: every operation ends at 0, any of them attains it
        obtain ⟨r, hr⟩ := List.exists_mem_of_length_pos (by rw [length_allOps]; exact hne : 0 < (allOps I).length)
        refine ⟨endVar I r, ⟨r, hr, rfl⟩, ?_⟩
        rw [solOf_end T hr]
        exact Int.le_antisymm (hge r hr) (h ▸ Int.add_nonneg (feasT_start_nonneg hT hr) (durOf_nonneg hv hr))
      · exact ⟨endVar I r, ⟨r, hr, rfl⟩, by rw [solOf_end T hr, h]⟩

def jobDurL (job : List Op) : Int := (job.map (·.dur)).sum
def jobOffset (I : Instance) (j : Nat) : Int := ((I.take j).map jobDurL).sum
def withinJob (I : Instance) (j p : Nat) : Int := (((I.getD j []).take p).map (·.dur)).sum

/-- every operation starts when all operations before it (job-major order) have finished -/
def seqT (I : Instance) : Asg :=
  { mach := fun j p => machOf I (j, p), st := fun j p => jobOffset I j + withinJob I j p }

theorem sum_take_le (l : List Int) (h : ∀ x ∈ l, 0 ≤ x) (k : Nat) : (l.take k).sum ≤ l.sum := by
  have e : l.sum = (l.take k).sum + (l.drop k).sum := by rw [← List.sum_append, List.take_append_drop]
  rw [e]
  exact Int.le_add_of_nonneg_right (sum_nonneg_of fun x hx => h x (List.mem_of_mem_drop hx))

theorem sum_take_mono (l : List Int) (h : ∀ x ∈ l, 0 ≤ x) (k k' : Nat) (hk : k ≤ k') :
    (l.take k).sum ≤ (l.take k').sum := by
  have := sum_take_le (l.take k') (fun x hx => h x (List.mem_of_mem_take hx)) k
  rwa [List.take_take, Nat.min_eq_left hk] at this

theorem take_succ_sum {α} (l : List α) (f : α → Int) (k : Nat) (x : α) (h : l[k]? = some x) :
    ((l.take (k + 1)).map f).sum = ((l.take k).map f).sum + f x := by
  rw [List.take_add_one, h]
  simp

theorem valid_job_nonneg {I : Instance} (hv : Valid I) (j : Nat) : ∀ x ∈ (I.getD j []).map (·.dur), 0 ≤ x := by
  intro x hx
  obtain ⟨op, hop, rfl⟩ := List.mem_map.1 hx
  obtain ⟨p, hp⟩ := List.getElem?_of_mem hop
  refine (hv j p op ?_).2.2
  rw [List.getD_eq_getElem?_getD] at hp
  rw [getOp]
  cases hj : I[j]? with
  | none => rw [hj] at hp; cases hp
  | some job => rw [hj] at hp; exact hp

theorem jobDurL_nonneg {I : Instance} (hv : Valid I) : ∀ x ∈ I.map jobDurL, 0 ≤ x := by
  intro x hx
  obtain ⟨job, hjob, rfl⟩ := List.mem_map.1 hx
  obtain ⟨j, hj⟩ := List.getElem?_of_mem hjob
  have : job = I.getD j [] := by simp [List.getD_eq_getElem?_getD, hj]
  unfold jobDurL
  rw [this]
  exact sum_nonneg_of (valid_job_nonneg hv j)

theorem withinJob_succ {I : Instance} {j p : Nat} {op : Op} (h : getOp I j p = some op) :
    withinJob I j (p + 1) = withinJob I j p + op.dur :=
  take_succ_sum _ _ p op (getOp_parts h).2

theorem withinJob_mono {I : Instance} (hv : Valid I) (j : Nat) {p p' : Nat} (h : p ≤ p') :
    withinJob I j p ≤ withinJob I j p' := by
  unfold withinJob
  rw [List.map_take, List.map_take]
  exact sum_take_mono _ (valid_job_nonneg hv j) p p' h

theorem withinJob_nonneg {I : Instance} (hv : Valid I) (j p : Nat) : 0 ≤ withinJob I j p := by
  unfold withinJob
  rw [List.map_take]
  exact sum_nonneg_of fun x hx => valid_job_nonneg hv j x (List.mem_of_mem_take hx)

theorem withinJob_le {I : Instance} (hv : Valid I) (j p : Nat) : withinJob I j p ≤ jobDurL (I.getD j []) := by
  unfold withinJob jobDurL
  rw [List.map_take]
  exact sum_take_le _ (valid_job_nonneg hv j) p

theorem jobOffset_mono {I : Instance} (hv : Valid I) {j j' : Nat} (h : j ≤ j') : jobOffset I j ≤ jobOffset I j' := by
  unfold jobOffset
  rw [List.map_take, List.map_take]
  exact sum_take_mono _ (jobDurL_nonneg hv) j j' h

theorem jobOffset_nonneg {I : Instance} (hv : Valid I) (j : Nat) : 0 ≤ jobOffset I j := by
  unfold jobOffset
  rw [List.map_take]
  exact sum_nonneg_of fun x hx => jobDurL_nonneg hv x (List.mem_of_mem_take hx)

theorem jobOffset_le {I : Instance} (hv : Valid I) (j : Nat) : jobOffset I j ≤ totalDuration I := by
  unfold jobOffset
  rw [List.map_take]
  exact sum_take_le _ (jobDurL_nonneg hv) j

theorem seq_end_le_next {I : Instance} (hv : Valid I) {j p : Nat} {op : Op} (h : getOp I j p = some op) :
    jobOffset I j + withinJob I j p + op.dur ≤ jobOffset I (j + 1) := by
  have h3 : jobOffset I (j + 1) = jobOffset I j + jobDurL (I.getD j []) := take_succ_sum I jobDurL j _ (getOp_parts h).1
  rw [h3, Int.add_assoc, ← withinJob_succ h]
  exact Int.add_le_add_left (withinJob_le hv j (p + 1)) _

theorem seq_end_le_start {I : Instance} (hv : Valid I) {j p j' p' : Nat} {op : Op} (hop : getOp I j p = some op)
    (h : j < j' ∨ j = j' ∧ p < p') :
    jobOffset I j + withinJob I j p + op.dur ≤ jobOffset I j' + withinJob I j' p' := by
  rcases h with h | ⟨rfl, h⟩
  · exact Int.le_trans (seq_end_le_next hv hop)
      (Int.le_trans (jobOffset_mono hv h) (Int.le_add_of_nonneg_right (withinJob_nonneg hv j' p')))
  · rw [Int.add_assoc, ← withinJob_succ hop]
    exact Int.add_le_add_left (withinJob_mono hv j h) _

theorem seqT_feasible (I : Instance) (hv : Valid I) (hn : NonFlexI I) :
    FeasT I (seqT I) ∧ BoundT I (seqT I) (totalDuration I) := by
  refine ⟨⟨?_, ?_, ?_, ?_⟩, ?_⟩
  · intro j p op hop
    exact machOf_mem hn hop
  · intro j p op hop
    exact Int.add_nonneg (jobOffset_nonneg hv j) (withinJob_nonneg hv j p)
  · intro j p op op' hop hop'
    exact seq_end_le_start hv hop (.inr ⟨rfl, Nat.lt_succ_self p⟩)
  · intro j p op j' p' op' hop hop' hne _
    rcases Nat.lt_trichotomy j j' with h | rfl | h
    · exact .inl (seq_end_le_start hv hop (.inl h))
    · rcases Nat.lt_trichotomy p p' with h | rfl | h
      · exact .inl (seq_end_le_start hv hop (.inr ⟨rfl, h⟩))
      · exact absurd rfl hne
      · exact .inr (seq_end_le_start hv hop' (.inr ⟨rfl, h⟩))
    · exact .inr (seq_end_le_start hv hop' (.inl h))
  · intro j p op hop
    exact Int.le_trans (seq_end_le_next hv hop) (jobOffset_le hv (j + 1))

/-- **C03 (a solution always exists).** The horizon `total_duration` is large enough: the generated model of every
valid non-flexible instance with at least one operation has a solution, so CP-SAT can only fail to return one because of
a time limit.  (Without operations `AddMaxEquality` over no expressions has no solution.) -/
theorem C03_solution_exists (I : Instance) (hv : Valid I) (hn : NonFlexI I) (hne : 0 < numOps I) :
    ∃ v, (cpModel I).Sat v ∧ v (makespanVar I) ≤ totalDuration I := by
  obtain ⟨hT, hB⟩ := seqT_feasible I hv hn
  have hH0 : 0 ≤ totalDuration I := sum_nonneg_of (jobDurL_nonneg hv)
  exact ⟨solOf I (seqT I), C03_feasible_is_solution I hv (seqT I) hT (fun _ _ _ _ => rfl) _ hB (Int.le_refl _) hH0 hne⟩

/-- **C03 (the optimum of the model is the true optimum).** For every bound `B`: the model has a solution with
objective `≤ B` exactly when some feasible complete assignment (each operation on its machine) finishes everything
by `B`.  So when CP-SAT reports `OPTIMAL`, no feasible schedule is shorter. -/
theorem C03_optimum (I : Instance) (hv : Valid I) (hn : NonFlexI I) (hne : 0 < numOps I) (B : Int) :
    (∃ v, (cpModel I).Sat v ∧ v (makespanVar I) ≤ B) ↔
    (∃ T, FeasT I T ∧ (∀ j p op, getOp I j p = some op → T.mach j p = machOf I (j, p)) ∧ BoundT I T B ∧ 0 ≤ B) := by
  constructor
  · rintro ⟨v, hs, hle⟩
    obtain ⟨hT, hB, _⟩ := C03_solution_feasible I hv hn v hs
    exact ⟨asgOfSol I v, hT, fun _ _ _ _ => rfl, fun j p op hop => Int.le_trans (hB j p op hop) hle,
      Int.le_trans (sat_makespan_nonneg hs) hle⟩
  · rintro ⟨T, hT, hm, hB, hB0⟩
    by_cases hH : B ≤ totalDuration I
    · exact ⟨solOf I T, C03_feasible_is_solution I hv T hT hm B hB hH hB0 hne⟩
    · obtain ⟨v, hs, hle⟩ := C03_solution_exists I hv hn hne
      exact ⟨v, hs, by omega⟩

/-- **C03 (never above a dispatcher-built schedule).** For every complete schedule the dispatcher can build — in
particular the result of every dispatching rule — the model has a solution whose objective is at most that
schedule's makespan; an `OPTIMAL` answer is therefore never above any dispatching-rule result. -/
theorem C03_le_dispatcher (I : Instance) (hv : Valid I) (hn : NonFlexI I) (hne : 0 < numOps I)
    (h : List (Nat × Nat × Nat)) (s : State) (ha : AHist I h s) (hc : isComplete I s = true) :
    ∃ v, (cpModel I).Sat v ∧ v (makespanVar I) ≤ makespan s := by
  obtain ⟨hT, hB⟩ := asgOf_feasible hv (ha.cinv hv) hc
  apply (C03_optimum I hv hn hne (makespan s)).2
  refine ⟨asgOf s, hT, ?_, hB, ?_⟩
  · intro j p op hop
    obtain ⟨m, hm⟩ := hn j p op hop
    have := hT.elig j p op hop
    rw [hm] at this
    simp only [List.mem_singleton] at this
    rw [this, machOf_eq hop, hm]; rfl
  · unfold makespan; exact foldl_last_ge _ 0

theorem flatMap_perm_congr {α β} (f g : α → List β) (l : List α) (h : ∀ a ∈ l, (f a).Perm (g a)) :
    (l.flatMap f).Perm (l.flatMap g) := by
  induction l with
  | nil => exact List.Perm.refl _
  | cons a t ih =>
    rw [List.flatMap_cons, List.flatMap_cons]
    exact (h a List.mem_cons_self).append (ih fun x hx => h x (List.mem_cons_of_mem _ hx))

theorem buckets_perm {α} (f : α → Nat) (l : List α) (M : Nat) :
    ((List.range M).flatMap fun m => l.filter fun x => f x == m).Perm (l.filter fun x => decide (f x < M)) := by
  induction M with
  | zero => simp
  | succ M ih =>
    rw [List.range_succ, List.flatMap_append]
    simp only [List.flatMap_cons, List.flatMap_nil, List.append_nil]
    have h1 := List.filter_append_perm (fun x => decide (f x < M)) (l.filter fun x => decide (f x < M + 1))
    have e1 : (l.filter fun x => decide (f x < M + 1)).filter (fun x => decide (f x < M)) = l.filter fun x => decide (f x < M) := by
      rw [List.filter_filter]
      refine List.filter_congr fun x _ => ?_
      rw [Bool.eq_iff_iff]
      simp only [Bool.and_eq_true, decide_eq_true_eq]
      omega
    have e2 : (l.filter fun x => decide (f x < M + 1)).filter (fun x => !decide (f x < M)) = l.filter fun x => f x == M := by
      rw [List.filter_filter]
      refine List.filter_congr fun x _ => ?_
      rw [Bool.eq_iff_iff]
      simp only [Bool.and_eq_true, Bool.not_eq_true', decide_eq_false_iff_not, decide_eq_true_eq, beq_iff_eq]
      omega
    rw [e1, e2] at h1
    exact (ih.append_right _).trans h1

/-- **C03 (complete).** The returned schedule contains exactly the operations of the instance, each once, each with
its duration, on its machine, at the start time the solver assigned. -/
theorem C03_schedule_complete (I : Instance) (hn : NonFlexI I) (v : Nat → Int) :
    (cpSchedule I v).flatten.Perm ((allOps I).map (sopOf I v)) ∧
    (cpSchedule I v).length = numMachines I ∧
    ∀ m, ∀ x ∈ (cpSchedule I v).getD m [], x.machine = m := by
  refine ⟨?_, by simp [cpSchedule], ?_⟩
  · have h1 : (cpSchedule I v).flatten =
        (List.range (numMachines I)).flatMap fun m => sortSOps ((opsOn I m).map (sopOf I v)) := by
      simp [cpSchedule, List.flatMap]
    rw [h1]
    have h2 := flatMap_perm_congr (fun m => sortSOps ((opsOn I m).map (sopOf I v)))
      (fun m => ((allOps I).filter fun r => machOf I r == m).map (sopOf I v)) (List.range (numMachines I))
      (fun m _ => (sortSOps_spec _).1)
    refine h2.trans ?_
    have h3 : ((List.range (numMachines I)).flatMap fun m => ((allOps I).filter fun r => machOf I r == m).map (sopOf I v))
        = ((List.range (numMachines I)).flatMap fun m => (allOps I).filter fun r => machOf I r == m).map (sopOf I v) := by
      rw [List.map_flatMap]
    rw [h3]
    apply List.Perm.map
    refine (buckets_perm (machOf I) (allOps I) (numMachines I)).trans ?_
    rw [List.filter_eq_self.2]
    intro r hr
    simp only [decide_eq_true_eq]
    exact machOf_lt hn hr
  · intro m x hx
    by_cases hm : m < numMachines I
    · have : (cpSchedule I v).getD m [] = sortSOps ((opsOn I m).map (sopOf I v)) := by
        simp [cpSchedule, List.getD_eq_getElem?_getD, hm]
      rw [this] at hx
      obtain ⟨r, hr, rfl⟩ := mem_sortSOps_opsOn.1 hx
      exact (mem_opsOn.1 hr).2
    · have : (cpSchedule I v).getD m [] = [] := by
        simp [cpSchedule, List.getD_eq_getElem?_getD, hm]
      rw [this] at hx; cases hx

/-- Whatever the instance, a feasible complete assignment that finishes by `B ≥ 0` leaves room for every job: the
operations of a job run one after the other, so the durations before position `p` fit before the start of `p`. -/
theorem jobDurL_le_of_feasT {I : Instance} {T : Asg} {B : Int} (hT : FeasT I T) (hB : BoundT I T B) (hB0 : 0 ≤ B)
    (j : Nat) : jobDurL (I.getD j []) ≤ B := by
  have key : ∀ p, p ≤ (I.getD j []).length → withinJob I j p ≤ B ∧
      (∀ op, getOp I j p = some op → withinJob I j p ≤ T.st j p) := by
    intro p
    induction p with
    | zero => exact fun _ => ⟨hB0, fun op hop => hT.nonneg j 0 op hop⟩
    | succ p ih =>
      intro hp
      obtain ⟨op, hop⟩ := Option.isSome_iff_exists.1 (getD_length_of_getOp.2 (show p < (I.getD j []).length by omega))
      have hst := (ih (by omega)).2 op hop
      rw [withinJob_succ hop]
      refine ⟨?_, fun op' hop' => ?_⟩
      · exact Int.le_trans (Int.add_le_add_right hst _) (hB j p op hop)
      · exact Int.le_trans (Int.add_le_add_right hst _) (hT.prec j p op op' hop hop')
  have := (key _ (Nat.le_refl _)).1
  rwa [withinJob, List.take_length] at this

/-- **C03 (job-length bound).** No solution finishes before the total duration of any job. -/
theorem C03_job_bound (I : Instance) (hv : Valid I) (hn : NonFlexI I) (v : Nat → Int) (hs : (cpModel I).Sat v)
    (j : Nat) (hj : j < I.length) : jobDurL (I.getD j []) ≤ v (makespanVar I) := by
  obtain ⟨hT, hB, _⟩ := C03_solution_feasible I hv hn v hs
  exact jobDurL_le_of_feasT hT hB (sat_makespan_nonneg hs) j

theorem ordered_sum_le (l : List SOp) (hp : l.Pairwise (fun a b => a.end_ ≤ b.start)) : ∀ (L B : Int),
    (∀ a ∈ l, L ≤ a.start ∧ a.end_ ≤ B) → L ≤ B → (l.map (·.dur)).sum ≤ B - L := by
  induction hp with
  | nil => exact fun L B _ h => Int.sub_nonneg_of_le h
  | @cons a t hat _ ih =>
    intro L B hb _
    have ha := hb a List.mem_cons_self
    have ih := ih a.end_ B (fun x hx => ⟨hat x hx, (hb x (List.mem_cons_of_mem _ hx)).2⟩) ha.2
    simp only [List.map_cons, List.sum_cons, SOp.end_] at ih ha ⊢
    omega

theorem perm_sum_eq {l l' : List Int} (h : l.Perm l') : l.sum = l'.sum := by
  induction h with
  | nil => rfl
  | cons a _ ih => simp [ih]
  | swap a b l => simp only [List.sum_cons]; omega
  | trans _ _ ih1 ih2 => exact ih1.trans ih2

/-- **C03 (machine-load bound).** No solution finishes before the total duration of the operations of any machine. -/
theorem C03_machine_bound (I : Instance) (hv : Valid I) (v : Nat → Int) (hs : (cpModel I).Sat v)
    (m : Nat) (hm : m < numMachines I) : ((opsOn I m).map (durOf I)).sum ≤ v (makespanVar I) := by
  have hord := cpSchedule_machine_ordered hv hs hm
  obtain ⟨hperm, _⟩ := sortSOps_spec ((opsOn I m).map (sopOf I v))
  have hb : ∀ a ∈ sortSOps ((opsOn I m).map (sopOf I v)), 0 ≤ a.start ∧ a.end_ ≤ v (makespanVar I) := by
    intro a ha
    obtain ⟨r, hr, rfl⟩ := List.mem_map.1 (hperm.mem_iff.1 ha)
    have hr' := (mem_opsOn.1 hr).1
    rw [sopOf_end hs hr']
    exact ⟨(sat_op hs hr').2.1, (sat_linMax hs).1 r hr'⟩
  have h1 := ordered_sum_le _ hord 0 (v (makespanVar I)) hb (sat_makespan_nonneg hs)
  have h2 : ((sortSOps ((opsOn I m).map (sopOf I v))).map (·.dur)).sum = ((opsOn I m).map (durOf I)).sum := by
    rw [perm_sum_eq (hperm.map (·.dur)), List.map_map]
    rfl
  omega

/-! non-vacuity: an instance with a zero-duration operation that shares its start with another operation of the
same machine (the case the `(start, end)` sort key exists for), and an optimal solution of its model -/
def cpExample : Instance := [[⟨[0], 0⟩, ⟨[1], 2⟩], [⟨[0], 3⟩]]
def cpExampleSol : Nat → Int := fun i => [0, 0, 0, 2, 0, 3, 3].getD i 0

example : Valid cpExample ∧ NonFlexI cpExample :=
  ⟨valid_of_validB (by decide +kernel), fun _ _ _ => nonFlex_single (by unfold NonFlex; decide +kernel)⟩

example : cpResult cpExample cpExampleSol =
    some ([[⟨0, 0, 0, 0, 0⟩, ⟨1, 0, 0, 0, 3⟩], [⟨0, 1, 1, 0, 2⟩]], 3) := by decide +kernel

end JS
