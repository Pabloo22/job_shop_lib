import JobShopModel.Graph
import JobShopProofs.Properties.C06
import JobShopProofs.GraphEdges
/-!
# C16 — graph encodings are faithful to the instance and the schedule

The builders are modelled operation by operation (`JobShopModel/Graph.lean`, with networkx's insertion-order
and attribute-overwrite semantics) and compared edge by edge with the real graphs.  Proved here: the node
lists of all four builders (one node per entity, operation node ids = operation ids), and — for the solved
disjunctive graph of any dispatcher-built schedule with positive durations — that start times strictly
increase along every edge (so the graph is acyclic), that every chain of edges has duration weight at most
the makespan, and that some chain attains it.  Edges of the solved graph are taken as the relation
`SolvedEdge` on schedule entries (job successor, or next entry on the same machine list).
-/
namespace JS

/-- **C16 (nodes).** Each builder yields exactly one node per entity it represents, operation nodes first with
node id = operation id, then (as applicable) one node per machine, one per job, the global node, or source
and sink. -/
theorem C16_nodes (I : Instance) :
    (build .disjunctive I).nodes = (List.range (numOps I)).map .operation ++ [.source, .sink] ∧
    (build .agentTask I).nodes =
      (List.range (numOps I)).map .operation ++ (List.range (numMachines I)).map .machine ∧
    (build .agentTaskJobs I).nodes =
      (List.range (numOps I)).map .operation ++ (List.range (numMachines I)).map .machine ++
        (List.range I.length).map .job ∧
    (build .completeAgentTask I).nodes =
      (List.range (numOps I)).map .operation ++ (List.range (numMachines I)).map .machine ++
        (List.range I.length).map .job ++ [.global] :=
  ⟨(stage_disjunctive I).nodes, (stage_agentTask I).nodes, (stage_agentTaskJobs I).nodes,
    (stage_completeAgentTask I).nodes⟩

/-- `y` is the entry right after `x` on some machine list -/
def MachConsec (s : State) (x y : SOp) : Prop := ∃ m pre post, s.sched.getD m [] = pre ++ x :: y :: post

/-- the edges of the solved disjunctive graph between operation nodes -/
def SolvedEdge (s : State) (x y : SOp) : Prop :=
  x ∈ s.sched.flatten ∧ y ∈ s.sched.flatten ∧ ((x.job = y.job ∧ x.pos + 1 = y.pos) ∨ MachConsec s x y)

/-- **C16 (acyclic).** In the solved disjunctive graph of a dispatcher-built schedule with positive durations
the start time strictly increases along every edge — a strict potential, so there is no cycle. -/
theorem C16_solved_acyclic (c : Cfg) (hv : Valid c.I) (hp : PosDurI c.I) (evs : List Ev) (x y : SOp)
    (he : SolvedEdge (run c evs) x y) : x.end_ ≤ y.start ∧ x.start < y.start := by
  have hi := inv_run hv evs
  have hf := feasible_of_cinv hi.cinv
  obtain ⟨hx, hy, hcase⟩ := he
  have hdur : 0 < x.dur := by
    obtain ⟨op, hop, hd, _⟩ := hf.isOp x hx
    rw [hd]; exact hp _ _ op hop
  have hle : x.end_ ≤ y.start := by
    rcases hcase with ⟨hj, hpos⟩ | ⟨m, pre, post, hm⟩
    · exact hf.jobOrder x hx y hy hj (by omega)
    · have hord := hf.machOrder m
      rw [hm, List.pairwise_append] at hord
      have := hord.2.1
      rw [List.pairwise_cons] at this
      exact this.1 y (by simp)
  exact ⟨hle, by simp only [SOp.end_] at hle; omega⟩

def Chain (s : State) : List SOp → Prop
  | [] => True
  | [_] => True
  | x :: y :: rest => SolvedEdge s x y ∧ Chain s (y :: rest)

def chainWeight (l : List SOp) : Int := (l.map (·.dur)).sum

theorem chain_weight_le (c : Cfg) (hv : Valid c.I) (hp : PosDurI c.I) (evs : List Ev) :
    ∀ (l : List SOp) (x : SOp), Chain (run c evs) (x :: l) → x ∈ (run c evs).sched.flatten →
      ∃ z, (x :: l).getLast? = some z ∧ z ∈ (run c evs).sched.flatten ∧ x.start + chainWeight (x :: l) ≤ z.end_
  | [], x, _, hx => ⟨x, rfl, hx, by simp [chainWeight, SOp.end_]⟩
  | y :: rest, x, hch, hx => by
    obtain ⟨he, hrest⟩ := hch
    obtain ⟨z, hz1, hz2, hz3⟩ := chain_weight_le c hv hp evs rest y hrest he.2.1
    obtain ⟨hle, _⟩ := C16_solved_acyclic c hv hp evs x y he
    refine ⟨z, by simpa using hz1, hz2, ?_⟩
    simp only [chainWeight, List.map_cons, List.sum_cons, SOp.end_] at hz3 hle ⊢
    omega

/-- **C16 (no path is longer than the makespan).** The duration weight of every chain of solved-graph edges
(in particular of every source-to-sink path) is at most the makespan. -/
theorem C16_path_le_makespan (c : Cfg) (hv : Valid c.I) (hp : PosDurI c.I) (evs : List Ev) (l : List SOp)
    (hne : l ≠ []) (hch : Chain (run c evs) l) (hmem : ∀ x ∈ l, x ∈ (run c evs).sched.flatten) :
    chainWeight l ≤ makespan (run c evs) := by
  cases l with
  | nil => exact absurd rfl hne
  | cons x t =>
    have hi := inv_run hv evs
    obtain ⟨z, _, hz, hw⟩ := chain_weight_le c hv hp evs t x hch (hmem x (by simp))
    have h1 := cinv_end_le_makespan hi.cinv z hz
    have h2 := (feasible_of_cinv hi.cinv).nonneg x (hmem x (by simp))
    omega

/-- every entry either starts at 0 or starts exactly when a solved-graph predecessor ends -/
def Tight (s : State) : Prop :=
  ∀ x ∈ s.sched.flatten, x.start = 0 ∨ ∃ y, SolvedEdge s y x ∧ y.end_ = x.start

theorem tight_init (I : Instance) : Tight (init I) := by
  intro x hx
  simp [init] at hx

theorem machConsec_mono {I : Instance} {s s' : State} {j p m : Nat} {op : Op} (hwf : WF I s)
    (hd : DispSpec I s s' j p m op) {x y : SOp} (h : MachConsec s x y) : MachConsec s' x y := by
  obtain ⟨k, pre, post, hk⟩ := h
  by_cases hkm : k = m
  · exact ⟨k, pre, post ++ [⟨j, p, m, startTime s j m, op.dur⟩], by
      rw [hd.sched_getD hwf, if_pos hkm, ← hkm, hk]; simp⟩
  · exact ⟨k, pre, post, by rw [hd.sched_getD hwf, if_neg hkm]; exact hk⟩

theorem tight_dispatch {I : Instance} {s s' : State} {j p m : Nat} {op : Op} (hc : CInv I s)
    (hd : DispSpec I s s' j p m op) (ht : Tight s) : Tight s' := by
  have hflat := hd.mem_flatten hc.wf
  have hedge : ∀ a b, SolvedEdge s a b → SolvedEdge s' a b := fun a b ⟨ha, hb, hcase⟩ =>
    ⟨(hflat a).2 (Or.inl ha), (hflat b).2 (Or.inl hb), hcase.imp id (machConsec_mono hc.wf hd)⟩
  intro x hx
  rcases (hflat x).1 hx with hxold | rfl
  · exact (ht x hxold).imp id fun ⟨y, hy, he⟩ => ⟨y, hedge y x hy, he⟩
  · -- the new entry
    obtain ⟨a, hr, ha, ha2⟩ := hc.abs
    simp only
    have hnewmem : (⟨j, p, m, startTime s j m, op.dur⟩ : SOp) ∈ s'.sched.flatten := (hflat _).2 (Or.inr rfl)
    by_cases hjm : s.machNext.getD m 0 ≤ s.jobNext.getD j 0
    · -- the job constraint is binding
      have hst : startTime s j m = s.jobNext.getD j 0 := by simp only [startTime]; omega
      cases p with
      | zero =>
        left
        have := ha.jN_zero j (by rw [hr.idx]; exact hd.hidx)
        rw [hr.jN] at this
        rw [hst, this]
      | succ q =>
        right
        obtain ⟨y, hy, hyj, hyp⟩ := ha.idx_sched j q (by rw [hr.idx, hd.hidx]; omega)
        have hyf : y ∈ s.sched.flatten := hr.sched.mem_iff.1 hy
        have hlast := ha.jN_last y hy (by rw [hyj, hyp, hr.idx, hd.hidx])
        rw [hyj, hr.jN] at hlast
        refine ⟨y, ⟨(hflat y).2 (Or.inl hyf), hnewmem, Or.inl ⟨hyj, by simp [hyp]⟩⟩, ?_⟩
        rw [hst, hlast]
    · -- the machine constraint is binding
      have hst : startTime s j m = s.machNext.getD m 0 := by simp only [startTime]; omega
      have hlast := hc.lastEnd m
      cases hl : (s.sched.getD m []).getLast? with
      | none =>
        left
        rw [hl] at hlast
        simp only [Option.map_none, Option.getD_none] at hlast
        rw [hst, hlast]
      | some l =>
        right
        rw [hl] at hlast
        simp only [Option.map_some, Option.getD_some] at hlast
        obtain ⟨ys, hys⟩ := List.getLast?_eq_some_iff.1 hl
        have hlf : l ∈ s.sched.flatten := mem_getD_flatten _ m l (by rw [hys]; simp)
        refine ⟨l, ⟨(hflat l).2 (Or.inl hlf), hnewmem, Or.inr ⟨m, ys, [], ?_⟩⟩, ?_⟩
        · rw [hd.sched_getD hc.wf, if_pos rfl, hys]; simp
        · rw [hst, hlast]

theorem tight_runEvs {c : Cfg} (hv : Valid c.I) : ∀ (evs : List Ev) (s : State), Inv c s → Tight s →
    Tight (runEvs c s evs)
  | [], _, _, ht => ht
  | e :: evs, s, hi, ht => by
    have hi' := inv_stepEv hv hi e
    simp only [runEvs, List.foldl_cons]
    apply tight_runEvs hv evs _ hi'
    cases e with
    | disp j p m =>
      simp only [stepEv]
      cases hd : dispatchReq c.I s j p m with
      | error e => exact ht
      | ok s' =>
        obtain ⟨mm, op, _, _, hdd⟩ := dispatchReq_ok hd
        obtain ⟨op', hsp⟩ := dispatch_ok hdd
        exact tight_dispatch hi.cinv hsp ht
    | reset => exact tight_init c.I
    | query q =>
      simp only [stepEv]
      obtain ⟨_, _, k, hk⟩ := ask_ok c s hi.cache q
      rw [hk]; exact ht

theorem chain_snoc {s : State} {x y : SOp} (hyx : SolvedEdge s y x) : ∀ (l : List SOp), l.getLast? = some y →
    Chain s l → Chain s (l ++ [x])
  | [], h, _ => by simp at h
  | [a], h, _ => by
    simp only [List.getLast?_singleton, Option.some.injEq] at h
    subst h
    exact ⟨hyx, trivial⟩
  | a :: b :: t, h, hch => ⟨hch.1, chain_snoc hyx (b :: t) (by simpa using h) hch.2⟩

theorem exists_end_eq_makespan (c : Cfg) (hv : Valid c.I) (hp : PosDurI c.I) (evs : List Ev)
    (hne : (run c evs).sched.flatten ≠ []) : ∃ x ∈ (run c evs).sched.flatten, x.end_ = makespan (run c evs) := by
  have hi := inv_run hv evs
  have hf := feasible_of_cinv hi.cinv
  rcases foldl_last_attained (run c evs).sched 0 with h0 | ⟨ms, hms, l, hl, he⟩
  · -- makespan 0 is impossible with positive durations and a non-empty schedule
    obtain ⟨x, hx⟩ := List.exists_mem_of_ne_nil _ hne
    have h1 := cinv_end_le_makespan hi.cinv x hx
    have h2 := hf.nonneg x hx
    obtain ⟨op, hop, hd, _⟩ := hf.isOp x hx
    have h3 := hp _ _ op hop
    have : makespan (run c evs) = 0 := h0
    simp only [SOp.end_] at h1; omega
  · exact ⟨l, List.mem_flatten.2 ⟨ms, hms, List.mem_of_getLast? hl⟩, he⟩

/-- **C16 (the longest path equals the makespan).** For every dispatcher-built schedule with positive durations,
every entry `x` is the end of a chain of solved-graph edges that starts at time 0 and whose duration weight is
exactly `x`'s end time; in particular a latest-ending operation ends a chain of weight equal to the makespan. -/
theorem C16_critical_path (c : Cfg) (hv : Valid c.I) (hp : PosDurI c.I) (evs : List Ev) :
    (∀ x ∈ (run c evs).sched.flatten, ∃ l, l.getLast? = some x ∧ Chain (run c evs) l ∧
      (∀ y ∈ l, y ∈ (run c evs).sched.flatten) ∧ chainWeight l = x.end_) ∧
    ((run c evs).sched.flatten ≠ [] → ∃ l, l ≠ [] ∧ Chain (run c evs) l ∧
      (∀ y ∈ l, y ∈ (run c evs).sched.flatten) ∧ chainWeight l = makespan (run c evs)) := by
  have ht : Tight (run c evs) := tight_runEvs hv evs _ (inv_init c) (tight_init c.I)
  have hf := feasible_of_cinv (inv_run hv evs).cinv
  -- by induction on the start time: a tight entry either starts at 0 or extends the chain of a predecessor
  have main : ∀ (n : Nat) (x : SOp), x ∈ (run c evs).sched.flatten → x.start.toNat = n →
      ∃ l, l.getLast? = some x ∧ Chain (run c evs) l ∧ (∀ y ∈ l, y ∈ (run c evs).sched.flatten) ∧
        chainWeight l = x.end_ := by
    intro n
    induction n using Nat.strongRecOn with
    | _ n ih =>
      intro x hx hn
      have hnn := hf.nonneg x hx
      rcases ht x hx with h0 | ⟨y, hyx, hye⟩
      · exact ⟨[x], rfl, trivial, by simpa using hx, by simp [chainWeight, SOp.end_, h0]⟩
      · obtain ⟨_, hlt⟩ := C16_solved_acyclic c hv hp evs y x hyx
        have hyn := hf.nonneg y hyx.1
        obtain ⟨l, hl1, hl2, hl3, hl4⟩ := ih y.start.toNat (by omega) y hyx.1 rfl
        refine ⟨l ++ [x], by simp, chain_snoc hyx l hl1 hl2,
          fun z hz => (List.mem_append.1 hz).elim (hl3 z) fun h => List.mem_singleton.1 h ▸ hx, ?_⟩
        simp only [chainWeight, List.map_append, List.sum_append, List.map_cons, List.map_nil, List.sum_cons,
          List.sum_nil] at hl4 ⊢
        rw [hl4, hye]; simp [SOp.end_]
  refine ⟨fun x hx => main _ x hx rfl, fun hne => ?_⟩
  obtain ⟨x, hx, hxe⟩ := exists_end_eq_makespan c hv hp evs hne
  obtain ⟨l, hl1, hl2, hl3, hl4⟩ := main _ x hx rfl
  refine ⟨l, ?_, hl2, hl3, by rw [hl4, hxe]⟩
  intro h; rw [h] at hl1; simp at hl1

/-! non-vacuity: the positive-duration example, its critical path -/
example :
    let c : Cfg := { I := posInstance }
    let s := run c [.disp 0 0 (some 0), .disp 1 0 none, .disp 0 1 none, .disp 1 1 (some 0)]
    makespan s = 5 ∧ (buildSolved c.I s).edges.length = 7 := by decide +kernel

end JS
