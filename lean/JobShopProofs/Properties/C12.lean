import JobShopProofs.Properties.C11
import JobShopProofs.Properties.C13
/-!
# C12 — reset makes everything indistinguishable from new

Proved here: the dispatcher itself (`reset = init`); for the observers whose callbacks only read the
dispatcher (`IsReady`, `Duration`, `IsScheduled`, `PositionInJob`, history, rewards) the value after a reset is
a function of the instance, the filter and the observed feature types alone — it does not depend on
anything the observer held before, hence equals the value a freshly constructed observer has; and the
behaviour after a reset is a function of the reset world only.  The observers with helper observers
(`RemainingOperations`, `IsCompleted`, composite) and the graph updater are treated in `ResetFresh` (`C12_world`: the
whole world after a reset is the freshly constructed one).
-/
namespace JS

/-- **C12 (dispatcher).** `Dispatcher.reset` restores exactly the freshly constructed state, from any state. -/
theorem C12_dispatcher (I : Instance) (s : State) (w : FWorld) :
    reset I s = init I ∧ (∃ w0 : FWorld, w0.s = init w.cfg.I ∧ w.reset = w.subs.foldl (fun w id => w.callReset id) w0) :=
  ⟨rfl, ⟨{ w with s := init w.cfg.I }, rfl, rfl⟩⟩

/-- what `reset()` leaves in an observer whose callbacks read only the dispatcher -/
def resetCore (c : Cfg) (s : State) (o : FObs) : FObs :=
  match o.kind with
  | .isReady => isReadyFeatures c s o
  | .duration => durationInit c s (o.zeroed c.I)
  | .isScheduled => o.zeroed c.I
  | .positionInJob => positionInit c s (o.zeroed c.I)
  | _ => o

theorem callReset_isolated (w : FWorld) (id : Nat) (o : FObs) (ho : w.heap[id]? = some o)
    (hk : o.kind = .isReady ∨ o.kind = .duration ∨ o.kind = .isScheduled ∨ o.kind = .positionInJob) :
    w.callReset id = w.setObs id (resetCore w.cfg w.s o) := by
  rcases hk with h | h | h | h <;> simp only [FWorld.callReset, ho, h, resetCore]

theorem zeroed_col_aux (I : Instance) (ft : FT) : ∀ (l : List FT), ft ∈ l →
    (match (l.map fun ft => (ft, [zeros (numEntities I ft)])).find? (fun x => x.1 == ft) with
      | some (_, c :: _) => c
      | _ => []) = zeros (numEntities I ft)
  | [], h => by cases h
  | a :: t, h => by
    simp only [List.map_cons, List.find?_cons]
    by_cases he : a = ft
    · subst he; simp
    · have : (a == ft) = false := by simpa using he
      simp only [this]
      rcases List.mem_cons.1 h with h1 | h1
      · exact absurd h1.symm he
      · exact zeroed_col_aux I ft t h1

theorem zeroed_col (I : Instance) (o : FObs) (_hnd : o.fts.Nodup) (ft : FT) (hft : ft ∈ o.fts) :
    (o.zeroed I).col ft = zeros (numEntities I ft) := by
  unfold FObs.zeroed FObs.col
  exact zeroed_col_aux I ft o.fts hft

theorem assignCols_cols_congr (g : FT → List Int) {o o' : FObs} (hf : o.fts = o'.fts) (hc : o.cols = o'.cols) :
    (o.assignCols fun _ => g).cols = (o'.assignCols fun _ => g).cols := by
  unfold FObs.assignCols
  rw [← hf]
  clear hf
  generalize o.fts = l
  induction l generalizing o o' with
  | nil => exact hc
  | cons a t ih => exact ih (o := o.setCol a (g a)) (o' := o'.setCol a (g a)) (by unfold FObs.setCol; rw [hc])

theorem resetCore_cols (c : Cfg) (s : State) {o1 o2 : FObs} (hk : o1.kind = o2.kind) (hf : o1.fts = o2.fts)
    (hkind : o1.kind = .isReady ∨ o1.kind = .duration ∨ o1.kind = .isScheduled ∨ o1.kind = .positionInJob) :
    (resetCore c s o1).cols = (resetCore c s o2).cols := by
  have hz : (o1.zeroed c.I).cols = (o2.zeroed c.I).cols := by unfold FObs.zeroed; rw [hf]
  rcases hkind with h | h | h | h <;> simp only [resetCore, h, hk ▸ h]
  · exact assignCols_cols_congr _ hf hz
  · exact assignCols_cols_congr _ hf hz
  · exact hz
  · unfold positionInit FObs.has
    rw [show (o1.zeroed c.I).fts = (o2.zeroed c.I).fts from hf]
    split
    · unfold FObs.setCol FObs.col
      rw [hz]
    · exact hz

/-- **C12 (isolated feature observers).** After `reset()` in dispatcher state `s`, every column of an
`IsReady`/`Duration`/`IsScheduled`/`PositionInJob` observer is a function of `(instance, filter, s, feature
type)` only: two observers of the same class observing the same feature types have identical columns after
`reset()`, whatever they held before. -/
theorem C12_reset_isolated (c : Cfg) (s : State) (o1 o2 : FObs) (hk : o1.kind = o2.kind) (hf : o1.fts = o2.fts)
    (hnd : o1.fts.Nodup)
    (hkind : o1.kind = .isReady ∨ o1.kind = .duration ∨ o1.kind = .isScheduled ∨ o1.kind = .positionInJob)
    (ft : FT) (hft : ft ∈ o1.fts) :
    (resetCore c s o1).col ft = (resetCore c s o2).col ft := by
  unfold FObs.col
  rw [resetCore_cols c s hk hf hkind]

/-- **C12 (history and rewards).** After a reset the history observer is empty and the reward observers hold no
rewards and the makespan of the empty schedule — exactly the state of freshly constructed ones. -/
theorem C12_reset_history_rewards (w : FWorld) (id : Nat) (o : FObs) (ho : w.heap[id]? = some o)
    (hs : w.s = init w.cfg.I) :
    (o.kind = .history → ((w.callReset id).heap[id]?.map (·.hist)) = some []) ∧
    (o.kind = .makespanReward →
      ((w.callReset id).heap[id]?.map fun o => (o.rewards, o.curMakespan)) = some ([], 0)) ∧
    (o.kind = .idleReward → ((w.callReset id).heap[id]?.map (·.rewards)) = some []) := by
  have hlt : id < w.heap.length := (List.getElem?_eq_some_iff.1 ho).1
  refine ⟨?_, ?_, ?_⟩ <;> intro hk <;> simp only [FWorld.callReset, ho, hk, FWorld.setObs]
  · rw [List.getElem?_set_self hlt]; rfl
  · rw [List.getElem?_set_self hlt, hs, makespan_init]; rfl
  · rw [List.getElem?_set_self hlt]; rfl

/-- **C12 (behaviour after a reset depends on the reset world only).** Whatever happened before, the world after
`… reset, evs₂` is `evs₂` applied to the reset world: equal reset worlds give equal traces. -/
theorem C12_trace_after_reset (c : Cfg) (evs1 evs2 : List FEv) :
    FWorld.run c (evs1 ++ [.reset] ++ evs2) = evs2.foldl FWorld.step ((FWorld.run c evs1).reset) := by
  simp only [FWorld.run, List.foldl_append, List.foldl_cons, List.foldl_nil, FWorld.step]

end JS
