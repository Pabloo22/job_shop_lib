import JobShopProofs.WorldInv
/-!
# C10 — observers see every dispatch once, in order, after it took effect

Worlds are reached from a fresh dispatcher by arbitrary lists of world events (`WEv`): dispatch requests
(accepted or rejected), resets, queries, observer constructions, `create_or_get_observer`, unsubscribe and
re-subscribe.  Direct double `subscribe` of one object is API misuse outside the event alphabet
(`resub` of a subscribed observer is refused by the model and not issued by the harness).
-/
namespace JS

/-- **C10 (every accepted dispatch).** In every reachable world an accepted dispatch
* produces a schedule entry `x` for the requested operation that is already in the schedule,
* calls `update(x)` on every subscribed observer exactly once — each one moves from its state `o` to
  `updateSpec … x o` — and on nobody else,
* in subscription order (the shared recorder trace grows by the subscribers' entries in `subs` order),
* at a moment when the dispatcher already shows the post-dispatch state: what a recorder logs is
  `snapshotSpec` of the new state `s'` (schedule, vectors, `current_time()`, `unscheduled_operations()`),
and leaves the subscriber list as it is. -/
theorem C10_dispatch_notifies (c : Cfg) (hv : Valid c.I) (evs : List WEv) (j p : Nat) (m : Option Int)
    (s' : State) (hd : dispatchReq c.I (World.run c evs).s j p m = .ok s') :
    let w := World.run c evs
    let w' := (w.dispatch j p m).1
    ∃ x : SOp, x ∈ s'.sched.flatten ∧ x.job = j ∧ x.pos = p ∧
      (∃ k, w'.s = setCache s' k) ∧ w'.subs = w.subs ∧
      (∀ i, i ∉ w.subs → w'.heap[i]? = w.heap[i]?) ∧
      (∀ i ∈ w.subs, ∀ o, w.heap[i]? = some o → w'.heap[i]? = some (Obs.updateSpec c s' i x o).1) ∧
      (w'.trace = w.trace ++ w.subs.flatMap fun id => match w.heap[id]? with
        | some o => (Obs.updateSpec c s' id x o).2 | none => []) ∧
      w'.accepted = w.accepted ++ [x] := by
  intro w w'
  obtain ⟨hw, hcfg⟩ := winv_run c hv evs
  have hd' : dispatchReq w.cfg.I w.s j p m = .ok s' := by rw [hcfg]; exact hd
  obtain ⟨x, h1, h2, h3, _, _, h5, _, h6, _, h7, h8, h9, h10⟩ :=
    World.dispatch_accepted hw (by rw [hcfg]; exact hv) hd'
  rw [hcfg] at h8 h9
  exact ⟨x, h1, h2, h3, h5, h6, h7, h8, h9, h10⟩

/-- a recorder's log entry for a dispatch is the dispatched entry together with the post-state view -/
theorem C10_recorder_sees_post_state (c : Cfg) (s' : State) (i : Nat) (x : SOp) (o : Obs) (hk : o.kind = .recorder) :
    (Obs.updateSpec c s' i x o).1.log = o.log ++ [.update x (snapshotSpec c s')] ∧
    (Obs.updateSpec c s' i x o).2 = [(i, .update x (snapshotSpec c s'))] := by
  simp [Obs.updateSpec, hk]

/-- **C10 (rejected dispatches notify nobody).** -/
theorem C10_rejected_silent (w : World) (j p : Nat) (m : Option Int) (e : Err)
    (hd : dispatchReq w.cfg.I w.s j p m = .error e) : (w.dispatch j p m).1 = w := by
  rw [World.dispatch_rejected w hd]

/-- **C10 (reset).** A reset calls `reset()` on each subscriber exactly once, in subscription order, after
the dispatcher itself has been reset, and on nobody else. -/
theorem C10_reset_once (c : Cfg) (hv : Valid c.I) (evs : List WEv) :
    let w := World.run c evs
    (∃ k, w.reset.s = setCache (init c.I) k) ∧ w.reset.subs = w.subs ∧
    (∀ i, i ∉ w.subs → w.reset.heap[i]? = w.heap[i]?) ∧
    (∀ i ∈ w.subs, ∀ o, w.heap[i]? = some o → w.reset.heap[i]? = some (Obs.resetSpec c (init c.I) i o).1) ∧
    (w.reset.trace = w.trace ++ w.subs.flatMap fun id => match w.heap[id]? with
      | some o => (Obs.resetSpec c (init c.I) id o).2 | none => []) := by
  intro w
  obtain ⟨hw, hcfg⟩ := winv_run c hv evs
  obtain ⟨_, h2, _, h4, _, h6, h7, h8, _⟩ := World.reset_spec hw
  rw [hcfg] at h2 h7 h8
  exact ⟨h2, h4, h6, h7, h8⟩

/-- **C10 (unsubscribed observers receive nothing).** Follows from the above: an observer that is not in
`subs` is untouched by dispatches and resets; and `unsubscribe` removes exactly that observer. -/
theorem C10_unsubscribe (w : World) (id : Nat) (h : id ∈ w.subs) (hnd : w.subs.Nodup) :
    (w.unsubscribe id).1.subs = w.subs.erase id ∧ id ∉ (w.unsubscribe id).1.subs ∧
    (w.unsubscribe id).1.heap = w.heap := by
  simp only [World.unsubscribe, List.contains_eq_mem, h, decide_true, ↓reduceIte, true_and]
  exact ⟨fun hm => (List.Nodup.mem_erase_iff hnd).1 hm |>.1 rfl, trivial⟩

/-- **C10 (non-subscribed observers).** An observer constructed with `subscribe=False` is not subscribed: the
subscriber list is unchanged and the new observer is not in it — so by `C10_dispatch_notifies` / `C10_reset_once` it
receives nothing until it is subscribed by hand. -/
theorem C10_detached (w : World) (hw : WInv w) (k : ObsKind) (id : Nat) (h : (w.constructDetached k).2 = some id) :
    (w.constructDetached k).1.subs = w.subs ∧ id ∉ (w.constructDetached k).1.subs ∧
    ∃ o, (w.constructDetached k).1.heap[id]? = some o ∧ o.kind = k := by
  unfold World.constructDetached at h ⊢
  split at h
  · cases h
  · rename_i hc
    simp only [hc, Bool.false_eq_true, ↓reduceIte, Option.some.injEq] at h ⊢
    subst h
    refine ⟨trivial, fun hm => ?_, ?_⟩
    · have := hw.valid _ hm; omega
    · exact ⟨Obs.construct w.cfg w.s k, by simp, Obs.construct_kind _ _ _ _⟩

/-- **C10 (singleton guard).** Constructing an observer of a singleton class while one is subscribed raises
and leaves the world (in particular the subscriber list) unchanged. -/
theorem C10_singleton (w : World) (k : ObsKind) (hs : k.singleton = true) (id : Nat) (hid : id ∈ w.subs)
    (hk : (w.heap[id]?.map (·.kind)) = some k) : w.construct k = (w, none) := by
  unfold World.construct
  have : (w.subs.any fun id => (w.heap[id]?.map (·.kind)) == some k) = true :=
    List.any_eq_true.2 ⟨id, hid, by simp [hk]⟩
  simp [hs, this]

/-- **C10 (create-or-get).** `create_or_get_observer` returns the first subscribed observer of the class
without changing anything; when there is none it constructs (and thereby subscribes) a new one. -/
theorem C10_create_or_get (w : World) (k : ObsKind) :
    (∀ id, w.subs.find? (fun id => (w.heap[id]?.map (·.kind)) == some k) = some id →
      w.createOrGet k = (w, some id)) ∧
    (w.subs.find? (fun id => (w.heap[id]?.map (·.kind)) == some k) = none →
      w.createOrGet k = w.construct k) := by
  constructor
  · intro id h; simp [World.createOrGet, h]
  · intro h; simp [World.createOrGet, h]

/-- **C10 (create-or-get with a condition).** With a condition, the first subscribed observer of the class
*that satisfies the condition* is returned — later subscribers are examined too — and only when none
matches is a new observer constructed. -/
theorem C10_create_or_get_cond (w : World) (k : ObsKind) (tag : Nat) :
    (∀ id, w.subs.find? (fun id => (w.heap[id]?.map fun o => (o.kind, o.tag)) == some (k, tag)) = some id →
      w.createOrGetCond k tag = (w, some id)) ∧
    (w.subs.find? (fun id => (w.heap[id]?.map fun o => (o.kind, o.tag)) == some (k, tag)) = none →
      w.createOrGetCond k tag = w.construct k tag) := by
  constructor
  · intro id h; simp [World.createOrGetCond, h]
  · intro h; simp [World.createOrGetCond, h]

/-- Induction along a history for one observer `i` that stays subscribed.  `P` relates the dispatcher state,
the dispatch sequence and the observer's record; it must not depend on the memo, be kept by `update` after an
accepted dispatch, and be re-established by `reset`. -/
theorem obs_run {c : Cfg} (hv : Valid c.I) (kind : ObsKind) (i : Nat) (P : State → List SOp → Obs → Prop)
    (hcache : ∀ s k acc o, P s acc o → P (setCache s k) acc o)
    (hupd : ∀ s s' j p m x acc o, Inv c s → dispatchReq c.I s j p m = .ok s' → x ∈ s'.sched.flatten →
      x.job = j → x.pos = p → o.kind = kind → P s acc o → P s' (acc ++ [x]) (Obs.updateSpec c s' i x o).1)
    (hreset : ∀ s acc o, o.kind = kind → P s acc o → P (init c.I) [] (Obs.resetSpec c (init c.I) i o).1)
    (evs : List WEv) (hno : ∀ e ∈ evs, e ≠ .unsub i) {w : World} (hw : WInv w) (hc : w.cfg = c)
    (h : ∃ o, w.heap[i]? = some o ∧ o.kind = kind ∧ i ∈ w.subs ∧ P w.s w.accepted o) :
    ∃ o, (evs.foldl World.step w).heap[i]? = some o ∧ o.kind = kind ∧ i ∈ (evs.foldl World.step w).subs ∧
      P (evs.foldl World.step w).s (evs.foldl World.step w).accepted o := by
  refine (List.foldlRecOn evs World.step (motive := fun w => (WInv w ∧ w.cfg = c) ∧
    ∃ o, w.heap[i]? = some o ∧ o.kind = kind ∧ i ∈ w.subs ∧ P w.s w.accepted o) ⟨⟨hw, hc⟩, h⟩ ?_).2
  rintro w ⟨⟨hw, rfl⟩, o, ho, hk, hi, hP⟩ e he
  refine ⟨winv_step hw hv e, ?_⟩
  rcases World.step_cases hw e with ⟨j, p, m, s', rfl, hd⟩ | rfl | ⟨hf, hsub⟩
  · obtain ⟨x, hx, hj, hp, _, _, ⟨k, hks⟩, _, hsubs, _, _, hheap, _, hacc⟩ := World.dispatch_accepted hw hv hd
    refine ⟨_, hheap i hi o ho, (Obs.updateSpec_kind _ _ _ _ _).trans hk, hsubs ▸ hi, ?_⟩
    simp only [World.step]
    rw [hks, hacc]
    exact hcache _ _ _ _ (hupd w.s s' j p m x w.accepted o hw.inv hd hx hj hp hk hP)
  · obtain ⟨_, ⟨k, hks⟩, _, hsubs, _, _, hheap, _, hacc⟩ := World.reset_spec hw
    refine ⟨_, hheap i hi o ho, (Obs.resetSpec_kind _ _ _ _).trans hk, hsubs ▸ hi, ?_⟩
    simp only [World.step]
    rw [hks, hacc]
    exact hcache _ _ _ _ (hreset w.s w.accepted o hk hP)
  · obtain ⟨k, hks⟩ := hf.s
    refine ⟨o, hf.heap i o ho, hk, hsub i hi (hno e he), ?_⟩
    rw [hks, hf.accepted]
    exact hcache _ _ _ _ hP

/-- `obs_run` for the observer constructed first on a fresh dispatcher (its id is 0) -/
theorem obs0_run (c : Cfg) (hv : Valid c.I) (kind : ObsKind) (P : State → List SOp → Obs → Prop)
    (hcache : ∀ s k acc o, P s acc o → P (setCache s k) acc o)
    (hinit : P (init c.I) [] (Obs.construct c (init c.I) kind))
    (hupd : ∀ s s' j p m x acc o, Inv c s → dispatchReq c.I s j p m = .ok s' → x ∈ s'.sched.flatten →
      x.job = j → x.pos = p → o.kind = kind → P s acc o → P s' (acc ++ [x]) (Obs.updateSpec c s' 0 x o).1)
    (hreset : ∀ s acc o, o.kind = kind → P s acc o → P (init c.I) [] (Obs.resetSpec c (init c.I) 0 o).1)
    (evs : List WEv) (hno : ∀ e ∈ evs, e ≠ .unsub 0) :
    let w := World.run c (.construct kind :: evs)
    ∃ o, w.heap[0]? = some o ∧ o.kind = kind ∧ 0 ∈ w.subs ∧ P w.s w.accepted o := by
  obtain ⟨hw1, hc1⟩ := winv_step (winv_init c) hv (.construct kind)
  refine obs_run hv kind 0 P hcache hupd hreset evs hno hw1 hc1
    ⟨Obs.construct c (init c.I) kind, ?_, Obs.construct_kind _ _ _ _, ?_, ?_⟩ <;>
    simp [World.step, World.construct, World.init]
  exact hinit

/-- **C10 (history observer).** A history observer created on the fresh dispatcher and never unsubscribed
always records exactly the accepted dispatch sequence since the last reset, in order. -/
theorem C10_history (c : Cfg) (hv : Valid c.I) (evs : List WEv) (hno : ∀ e ∈ evs, e ≠ .unsub 0) :
    let w := World.run c (.construct .history :: evs)
    ∃ o, w.heap[0]? = some o ∧ o.hist = w.accepted := by
  intro w
  obtain ⟨o, ho, _, _, hP⟩ := obs0_run c hv .history (fun _ acc o => o.hist = acc)
    (fun _ _ _ _ h => h) rfl
    (by intro s s' j p m x acc o _ _ _ _ _ hk h; simp [Obs.updateSpec, hk, h])
    (by intro s acc o hk _; simp [Obs.resetSpec, hk]) evs hno
  exact ⟨o, ho, hP⟩

/-! non-vacuity -/
example :
    let c : Cfg := { I := exampleInstance }
    let w := World.run c [.construct .history, .construct .recorder, .construct .history, .disp 1 0 none,
      .disp 1 0 none, .unsub 1, .disp 0 0 (some 0)]
    w.subs = [0] ∧ (w.heap[0]?.map (·.hist)) = some [⟨1, 0, 1, 0, 4⟩, ⟨0, 0, 0, 0, 3⟩] ∧
    (w.heap[1]?.map (·.log.length)) = some 1 ∧ w.heap.length = 2 := by decide +kernel

end JS
