import JobShopProofs.Properties.C01
/-!
# C02 — start times are forced, bookkeeping matches the schedule, histories replay

Everything is stated against the *schedule* (`s.sched`, the per-machine lists), not against the tracking
vectors: the vectors are then shown to be what the schedule implies.
-/
namespace JS

/-- end of the last operation listed on machine `m` (0 if none) — read off the schedule -/
def lastEndOn (S : List (List SOp)) (m : Nat) : Int := ((S.getD m []).getLast?.map SOp.end_).getD 0

/-- end of the job predecessor of `(j, p)` in the schedule (0 if `p = 0`) — read off the schedule -/
def predEnd (S : List (List SOp)) (j : Nat) : Nat → Int
  | 0 => 0
  | q+1 => ((S.flatten.find? fun x => x.job == j && x.pos == q).map SOp.end_).getD 0

theorem jobNext_eq_predEnd {I : Instance} {s : State} (h : CInv I s) (j : Nat) :
    s.jobNext.getD j 0 = predEnd s.sched j (s.jobIdx.getD j 0) := by
  obtain ⟨a, hr, ha, ha2⟩ := h.abs
  rw [← hr.jN, ← hr.idx]
  cases hidx : a.idx j with
  | zero => simp [predEnd, ha.jN_zero j hidx]
  | succ q =>
    obtain ⟨x, hx, hxj, hxp⟩ := ha.idx_sched j q (by omega)
    have hfind := cinv_find? h (hr.sched.mem_iff.1 hx)
    rw [hxj, hxp] at hfind
    simp only [predEnd, hfind, Option.map_some, Option.getD_some]
    have := ha.jN_last x hx (by rw [hxj, hxp, hidx])
    rw [hxj] at this; exact this

theorem cinv_start_forced {I : Instance} {s s' : State} (hc : CInv I s) {j p m : Nat}
    (h : dispatch I s j p m = .ok s') :
    ∃ so : SOp, s'.sched.getD m [] = s.sched.getD m [] ++ [so] ∧
      (∀ k, k ≠ m → s'.sched.getD k [] = s.sched.getD k []) ∧
      so.job = j ∧ so.pos = p ∧ so.machine = m ∧
      (∃ op, getOp I j p = some op ∧ so.dur = op.dur) ∧
      so.start = max (predEnd s.sched j p) (lastEndOn s.sched m) := by
  obtain ⟨op, hd⟩ := dispatch_ok h
  refine ⟨⟨j, p, m, startTime s j m, op.dur⟩, ?_, ?_, rfl, rfl, rfl, ⟨op, hd.hop, rfl⟩, ?_⟩
  · rw [hd.sched_getD hc.wf, if_pos rfl]
  · intro k hk; rw [hd.sched_getD hc.wf, if_neg hk]
  · simp only [startTime, lastEndOn]
    rw [hc.lastEnd m, jobNext_eq_predEnd hc j, hd.hidx]
    exact Int.max_comm _ _

/-- **C02 (forced start).** In every reachable state an accepted dispatch of `(j,p)` on `m` appends to
machine `m`'s list (and to no other) one entry whose start is exactly the later of the end of the job
predecessor and the end of the last operation already on `m` — both read off the schedule, 0 when absent. -/
theorem C02_start_forced (c : Cfg) (hv : Valid c.I) (evs : List Ev) (j p m : Nat) (s' : State)
    (h : dispatch c.I (run c evs) j p m = .ok s') :
    ∃ so : SOp, s'.sched.getD m [] = (run c evs).sched.getD m [] ++ [so] ∧
      (∀ k, k ≠ m → s'.sched.getD k [] = (run c evs).sched.getD k []) ∧
      so.job = j ∧ so.pos = p ∧ so.machine = m ∧
      (∃ op, getOp c.I j p = some op ∧ so.dur = op.dur) ∧
      so.start = max (predEnd (run c evs).sched j p) (lastEndOn (run c evs).sched m) :=
  cinv_start_forced (inv_run hv evs).cinv h

theorem foldl_last_ge (L : List (List SOp)) : ∀ (acc : Int),
    acc ≤ L.foldl makespanStep acc := by
  induction L with
  | nil => intro acc; simp
  | cons ms t ih =>
    intro acc
    simp only [List.foldl_cons, makespanStep]
    cases ms.getLast? with
    | none => exact ih acc
    | some l => have := ih (max acc l.end_); simp only at this ⊢; omega

theorem foldl_last_mem (L : List (List SOp)) : ∀ (acc : Int) (ms : List SOp) (l : SOp), ms ∈ L →
    ms.getLast? = some l →
    l.end_ ≤ L.foldl makespanStep acc := by
  induction L with
  | nil => intro _ _ _ h; simp at h
  | cons ms' t ih =>
    intro acc ms l hmem hl
    simp only [List.foldl_cons]
    rcases List.mem_cons.1 hmem with rfl | hmem
    · simp only [makespanStep, hl]
      have := foldl_last_ge t (max acc l.end_)
      omega
    · exact ih _ ms l hmem hl

theorem foldl_last_attained (L : List (List SOp)) : ∀ (acc : Int),
    (L.foldl makespanStep acc = acc) ∨
    ∃ ms ∈ L, ∃ l, ms.getLast? = some l ∧
      l.end_ = L.foldl makespanStep acc := by
  induction L with
  | nil => intro acc; left; rfl
  | cons ms t ih =>
    intro acc
    simp only [List.foldl_cons, makespanStep]
    cases hl : ms.getLast? with
    | none =>
      rcases ih acc with h | ⟨ms', hm', l, hl', he⟩
      · left; exact h
      · right; exact ⟨ms', List.mem_cons_of_mem _ hm', l, hl', he⟩
    | some l =>
      simp only
      rcases ih (max acc l.end_) with h | ⟨ms', hm', l', hl', he⟩
      · by_cases hc : acc ≤ l.end_
        · right
          refine ⟨ms, by simp, l, hl, ?_⟩
          rw [h]; omega
        · left; rw [h]; omega
      · right; exact ⟨ms', List.mem_cons_of_mem _ hm', l', hl', he⟩

theorem getD_mem_or_nil {α} (l : List (List α)) (m : Nat) : l.getD m [] ∈ l ∨ l.getD m [] = [] := by
  simp only [List.getD_eq_getElem?_getD]
  cases h : l[m]? with
  | none => right; rfl
  | some ms => left; exact List.mem_of_getElem? h

theorem end_le_last (ms : List SOp) (l x : SOp) (hord : ms.Pairwise (fun a b => a.end_ ≤ b.start))
    (hdur : 0 ≤ l.dur) (hl : ms.getLast? = some l) (hx : x ∈ ms) : x.end_ ≤ l.end_ := by
  obtain ⟨ys, hsplit⟩ := List.getLast?_eq_some_iff.1 hl
  rw [hsplit] at hord hx
  rw [List.pairwise_append] at hord
  rcases List.mem_append.1 hx with hx | hx
  · have := hord.2.2 x hx l (by simp)
    simp only [SOp.end_] at this ⊢; omega
  · simp only [List.mem_singleton] at hx; subst hx; exact Int.le_refl _

theorem cinv_end_le_makespan {I : Instance} {s : State} (h : CInv I s) :
    ∀ x ∈ s.sched.flatten, x.end_ ≤ makespan s := by
  intro x hx
  obtain ⟨m, hm⟩ := mem_flatten_getD _ x hx
  have hne : s.sched.getD m [] ≠ [] := List.ne_nil_of_mem hm
  rcases getD_mem_or_nil s.sched m with hmem | hnil
  · obtain ⟨l, hl⟩ : ∃ l, (s.sched.getD m []).getLast? = some l := by
      cases h' : (s.sched.getD m []).getLast? with
      | none => exact absurd (List.getLast?_eq_none_iff.1 h') hne
      | some l => exact ⟨l, rfl⟩
    have hlm : l ∈ s.sched.getD m [] := List.mem_of_getLast? hl
    have h1 := end_le_last _ l x (h.ordered m) (cinv_dur_nonneg h l (mem_getD_flatten _ _ _ hlm)) hl hm
    have h2 := foldl_last_mem s.sched 0 _ l hmem hl
    unfold makespan; omega
  · exact absurd hnil hne

theorem makespan_spec {I : Instance} {s : State} (h : CInv I s) :
    (∀ x ∈ s.sched.flatten, x.end_ ≤ makespan s) ∧
    (makespan s = 0 ∨ ∃ x ∈ s.sched.flatten, x.end_ = makespan s) ∧ 0 ≤ makespan s :=
  ⟨cinv_end_le_makespan h, (foldl_last_attained s.sched 0).imp_right fun ⟨ms, hms, l, hl, he⟩ =>
    ⟨l, List.mem_flatten.2 ⟨ms, hms, List.mem_of_getLast? hl⟩, he⟩, foldl_last_ge _ 0⟩

theorem cinv_tracking {I : Instance} {s : State} (hc : CInv I s) :
    (∀ m, s.machNext.getD m 0 = lastEndOn s.sched m) ∧
    (∀ j, s.jobIdx.getD j 0 = (s.sched.flatten.filter fun x => x.job == j).length) ∧
    (∀ j, s.jobNext.getD j 0 = predEnd s.sched j (s.jobIdx.getD j 0)) ∧
    numScheduled s = s.sched.flatten.length ∧
    (∀ x ∈ s.sched.flatten, x.end_ ≤ makespan s) ∧
    (makespan s = 0 ∨ ∃ x ∈ s.sched.flatten, x.end_ = makespan s) ∧ 0 ≤ makespan s := by
  obtain ⟨a, hr, ha, ha2⟩ := hc.abs
  refine ⟨hc.lastEnd, fun j => ?_, jobNext_eq_predEnd hc, numScheduled_eq s, makespan_spec hc⟩
  rw [← hr.idx, ← ha2.idx_count j]
  exact (hr.sched.filter _).length_eq

/-- **C02 (bookkeeping).** In every reachable state the dispatcher's tracking data are exactly what the
schedule implies: per-machine next-available time = end of the last operation on the machine; per-job
next-operation index = number of scheduled operations of the job; per-job next-available time = end of the
job's last scheduled operation; scheduled-operation count = number of entries; and the makespan (which the
code reads off the last operation of each machine) is the true maximum end time. -/
theorem C02_tracking (c : Cfg) (hv : Valid c.I) (evs : List Ev) :
    let s := run c evs
    (∀ m, s.machNext.getD m 0 = lastEndOn s.sched m) ∧
    (∀ j, s.jobIdx.getD j 0 = (s.sched.flatten.filter fun x => x.job == j).length) ∧
    (∀ j, s.jobNext.getD j 0 = predEnd s.sched j (s.jobIdx.getD j 0)) ∧
    numScheduled s = s.sched.flatten.length ∧
    (∀ x ∈ s.sched.flatten, x.end_ ≤ makespan s) ∧
    (makespan s = 0 ∨ ∃ x ∈ s.sched.flatten, x.end_ = makespan s) ∧ 0 ≤ makespan s :=
  cinv_tracking (inv_run hv evs).cinv

/-- equality of everything but the memo table -/
def CoreEq (s t : State) : Prop :=
  s.sched = t.sched ∧ s.machNext = t.machNext ∧ s.jobIdx = t.jobIdx ∧ s.jobNext = t.jobNext

theorem CoreEq.rfl' (s : State) : CoreEq s s := ⟨rfl, rfl, rfl, rfl⟩

theorem dispatch_coreEq {I : Instance} {s t : State} (h : CoreEq s t) (j p m : Nat) :
    dispatch I s j p m = dispatch I t j p m := by
  obtain ⟨h1, h2, h3, h4⟩ := h
  cases s; cases t
  simp only at h1 h2 h3 h4
  subst h1 h2 h3 h4
  rfl

/-- `Dispatcher.reset` restores exactly the state of a freshly constructed dispatcher. -/
theorem C02_reset_eq_init (I : Instance) (s : State) : reset I s = init I := rfl

/-- the accepted `(job, position, machine)` triples since the last reset, in order — what a
`HistoryObserver` records -/
def acceptedHistory (c : Cfg) : State → List Ev → List (Nat × Nat × Nat) → List (Nat × Nat × Nat)
  | _, [], acc => acc
  | s, e :: evs, acc =>
    match e with
    | .disp j p m =>
      match getOp c.I j p with
      | none => acceptedHistory c s evs acc
      | some op =>
        match resolveMachine op m, dispatchReq c.I s j p m with
        | .ok mm, .ok s' => acceptedHistory c s' evs (acc ++ [(j, p, mm)])
        | _, _ => acceptedHistory c s evs acc
    | .reset => acceptedHistory c (reset c.I s) evs []
    | .query q => acceptedHistory c (ask c s q).2 evs acc

/-- re-dispatching a recorded history on a dispatcher without filter, observers or queries -/
def replay (I : Instance) (s : State) (h : List (Nat × Nat × Nat)) : State :=
  h.foldl (fun s r => match dispatch I s r.1 r.2.1 r.2.2 with | .ok s' => s' | .error _ => s) s

theorem replay_append (I : Instance) (s : State) (h1 h2 : List (Nat × Nat × Nat)) :
    replay I s (h1 ++ h2) = replay I (replay I s h1) h2 := by simp [replay, List.foldl_append]

theorem acceptedHistory_rejected {c : Cfg} {s : State} {j p : Nat} {m : Option Int} {e : Err} (evs : List Ev)
    (acc : List (Nat × Nat × Nat)) (hd : dispatchReq c.I s j p m = .error e) :
    acceptedHistory c s (.disp j p m :: evs) acc = acceptedHistory c s evs acc := by
  rw [acceptedHistory]
  cases getOp c.I j p with
  | none => rfl
  | some op =>
    simp only [hd]
    cases resolveMachine op m <;> rfl

theorem acceptedHistory_accepted {c : Cfg} {s s' : State} {j p mm : Nat} {m : Option Int} {op : Op} (evs : List Ev)
    (acc : List (Nat × Nat × Nat)) (hd : dispatchReq c.I s j p m = .ok s') (hop : getOp c.I j p = some op)
    (hres : resolveMachine op m = .ok mm) :
    acceptedHistory c s (.disp j p m :: evs) acc = acceptedHistory c s' evs (acc ++ [(j, p, mm)]) := by
  rw [acceptedHistory]
  simp only [hop, hres, hd]

theorem replay_general (c : Cfg) : ∀ (evs : List Ev) (s : State) (acc : List (Nat × Nat × Nat)),
    CacheOK c s → CoreEq s (replay c.I (init c.I) acc) →
    CoreEq (runEvs c s evs) (replay c.I (init c.I) (acceptedHistory c s evs acc))
  | [], s, acc, _, h => h
  | e :: evs, s, acc, hc, h => by
    rw [runEvs, List.foldl_cons, ← runEvs]
    cases e with
    | disp j p m =>
      rw [stepEv]
      cases hd : dispatchReq c.I s j p m with
      | error e =>
        rw [acceptedHistory_rejected evs acc hd]
        exact replay_general c evs s acc hc h
      | ok s' =>
        obtain ⟨mm, op, hop, hres, hdd⟩ := dispatchReq_ok hd
        rw [acceptedHistory_accepted evs acc hd hop hres]
        refine replay_general c evs s' (acc ++ [(j, p, mm)]) (cacheOK_empty c s' ?_) ?_
        · obtain ⟨_, hsp⟩ := dispatch_ok hdd
          exact hsp.cache
        · rw [replay_append]
          have e := dispatch_coreEq (I := c.I) h j p mm
          rw [hdd] at e
          simp only [replay, List.foldl_cons, List.foldl_nil] at e ⊢
          rw [← e]
          exact CoreEq.rfl' s'
    | reset => exact replay_general c evs _ [] (cacheOK_empty c _ rfl) (CoreEq.rfl' _)
    | query q =>
      obtain ⟨_, hok, k, hk⟩ := ask_ok c s hc q
      refine replay_general c evs _ acc hok ?_
      show CoreEq (ask c s q).2 _
      rw [hk]
      exact h

/-- **C02 (replay).** The schedule and all bookkeeping are a pure function of the accepted
`(operation, machine)` sequence since the last reset: re-dispatching that recorded sequence on a fresh
dispatcher — or on one that was reset (`C02_reset_eq_init`) — with any other filter configuration and no
queries reproduces them exactly, whatever rejected requests, queries and earlier episodes the original
history contained. -/
theorem C02_replay (c : Cfg) (evs : List Ev) :
    CoreEq (run c evs) (replay c.I (init c.I) (acceptedHistory c (init c.I) evs [])) :=
  replay_general c evs (init c.I) [] (cacheOK_empty c _ rfl) (CoreEq.rfl' _)

theorem C02_replay_from_reset (c : Cfg) (evs : List Ev) (s : State) :
    CoreEq (run c evs) (replay c.I (reset c.I s) (acceptedHistory c (init c.I) evs [])) := C02_replay c evs

/-! non-vacuity: the example history of C01 really exercises an accepted dispatch with both constraints -/
example : (run { I := exampleInstance } exampleHistory).sched =
    [[⟨0, 2, 0, 7, 2⟩], [⟨1, 0, 1, 0, 4⟩, ⟨0, 0, 1, 4, 3⟩], [], [⟨0, 1, 3, 7, 0⟩, ⟨1, 1, 3, 7, 1⟩]] := by decide +kernel

end JS
