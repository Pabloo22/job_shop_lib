import JobShopProofs.Properties.C07
/-!
# C06 — time only moves forward
-/
namespace JS

def PosDurI (I : Instance) : Prop := ∀ j p op, getOp I j p = some op → 0 < op.dur

/-- the current time when no filter is installed: minimum start time over the raw ready operations -/
def nowNoFilter (I : Instance) (s : State) : Int := minStart I s (rawReady I s)

theorem posDurL_of_posDurI {I : Instance} (h : PosDurI I) (L : List OpRef) : PosDurL I L :=
  fun r _ op hop => h r.1 r.2 op hop

/-- with positive durations the built-in filters keep an operation that starts first, in any state that satisfies
the invariant -/
theorem cinv_filter_now {c : Cfg} (hv : Valid c.I) (hp : PosDurI c.I) {s : State} (hc : CInv c.I s) :
    currentTimePure c s = nowNoFilter c.I s := by
  unfold currentTimePure availablePure applyCfg nowNoFilter
  cases c.F with
  | none => rfl
  | some fs => exact applyFilters_minStart hv hc fs (rawReady_refsOK hv _) (posDurL_of_posDurI hp _)

/-- **C06 (filters do not change the time).** With positive durations, in every reachable state the
current time under any composition of built-in filters equals the current time without filter. -/
theorem C06_filter_now (c : Cfg) (hv : Valid c.I) (hp : PosDurI c.I) (evs : List Ev) :
    currentTimePure c (run c evs) = nowNoFilter c.I (run c evs) :=
  cinv_filter_now hv hp (inv_run hv evs).cinv

theorem currentTime_noFilter (c : Cfg) (h : c.F = none) (s : State) : currentTimePure c s = nowNoFilter c.I s := by
  unfold currentTimePure availablePure applyCfg nowNoFilter; rw [h]

theorem now_mono_dispatch {I : Instance} (hv : Valid I) {s s' : State} {j p m : Nat} (hc : CInv I s)
    (h : dispatch I s j p m = .ok s') : nowNoFilter I s ≤ nowNoFilter I s' := by
  obtain ⟨op, hd⟩ := dispatch_ok h
  have hdur : 0 ≤ op.dur := (hv j p op hd.hop).2.2
  have hst := dispSpec_startTime hc.wf hd hdur
  have hokS := rawReady_refsOK hv s
  -- the dispatched operation was ready, so its start bounds the old current time from above
  have hready : (j, p) ∈ rawReady I s :=
    (mem_rawReady I s (j, p)).2 ⟨hd.job_lt, hd.hidx.symm, getD_length_of_getOp.1 (Option.isSome_of_eq_some hd.hop)⟩
  have hstart : nowNoFilter I s ≤ startTime s j m + op.dur :=
    Int.le_trans ((minStart_spec I s _ (List.ne_nil_of_mem hready) hokS).2 (j, p) hready op hd.hop m hd.hm)
      (Int.le_add_of_nonneg_right hdur)
  by_cases hraw' : rawReady I s' = []
  · -- nothing left: the new time is the makespan, which is at least the end of the new operation
    rw [nowNoFilter.eq_def I s', hraw', minStart_nil]
    exact Int.le_trans hstart (cinv_end_le_makespan (cinv_dispatch hdur hc hd) ⟨j, p, m, startTime s j m, op.dur⟩
      ((hd.mem_flatten hc.wf _).2 (.inr rfl)))
  · obtain ⟨⟨r', hr', op', hop', m', hm', he⟩, _⟩ := minStart_spec I s' _ hraw' (rawReady_refsOK hv s')
    refine Int.le_trans ?_ (Int.le_of_eq he)
    by_cases hrj : r'.1 = j
    · exact Int.le_trans hstart ((hst r'.1 m').2 hrj)
    · -- another job: it was ready before, with a start time no later than now
      obtain ⟨h1, h2, h3⟩ := (mem_rawReady I s' r').1 hr'
      rw [(dispSpec_vectors hc.wf hd).2.1, if_neg hrj] at h2
      have hr0 : r' ∈ rawReady I s := (mem_rawReady I s r').2 ⟨h1, h2, h3⟩
      exact Int.le_trans ((minStart_spec I s _ (List.ne_nil_of_mem hr0) hokS).2 r' hr0 op' hop' m' hm')
        (hst r'.1 m').1

/-- **C06 (monotone time).** Along every history the current time never decreases across a dispatch
request (accepted or rejected): for every instance when no filter is used, and for every instance with
positive durations under any composition of built-in filters. -/
theorem C06_now_mono (c : Cfg) (hv : Valid c.I) (hF : c.F = none ∨ PosDurI c.I) (evs : List Ev)
    (j p : Nat) (m : Option Int) :
    currentTimePure c (run c evs) ≤ currentTimePure c (run c (evs ++ [.disp j p m])) := by
  have hnow : ∀ evs', currentTimePure c (run c evs') = nowNoFilter c.I (run c evs') := by
    intro evs'
    rcases hF with h | h
    · exact currentTime_noFilter c h _
    · exact C06_filter_now c hv h evs'
  rw [hnow, hnow, run_snoc]
  simp only [stepEv]
  cases hd : dispatchReq c.I (run c evs) j p m with
  | error e => exact Int.le_refl _
  | ok s' =>
    obtain ⟨mm, op, _, _, hdd⟩ := dispatchReq_ok hd
    exact now_mono_dispatch hv (inv_run hv evs).cinv hdd

/-- **C06 (completed only grows).** Under the same conditions, an operation reported completed before a
dispatch request is still reported completed after it. -/
theorem C06_completed_mono (c : Cfg) (hv : Valid c.I) (hF : c.F = none ∨ PosDurI c.I) (evs : List Ev)
    (j p : Nat) (m : Option Int) (r : OpRef) :
    r ∈ completedPure c (run c evs) → r ∈ completedPure c (run c (evs ++ [.disp j p m])) := by
  have hi := inv_run hv evs
  refine completed_mono hi.cinv (inv_run hv _).cinv (fun x hx => ?_) (C06_now_mono c hv hF evs j p m) r
  rw [run_snoc]
  simp only [stepEv]
  cases hd : dispatchReq c.I (run c evs) j p m with
  | error e => exact hx
  | ok s' =>
    obtain ⟨_, _, _, hsp⟩ := dispatchReq_spec hd
    exact (hsp.mem_flatten hi.cinv.wf x).2 (.inl hx)

theorem currentTime_of_rawReady_nil (c : Cfg) {s : State} (hraw : rawReady c.I s = []) :
    currentTimePure c s = makespan s := by
  have hav : availablePure c s = [] := List.sublist_nil.1 (hraw ▸ availablePure_sublist c s)
  rw [currentTimePure, hav, minStart_nil]

/-- **C06 (final time).** Once the schedule is complete the current time is the makespan, under any
filter configuration. -/
theorem C06_final (c : Cfg) (hv : Valid c.I) (evs : List Ev) (hcomp : isComplete c.I (run c evs) = true) :
    currentTimePure c (run c evs) = makespan (run c evs) :=
  have hc := (inv_run hv evs).cinv
  currentTime_of_rawReady_nil c ((rawReady_eq_nil_iff hc).2 ((cinv_isComplete_iff hc).1 hcomp))

/-! non-vacuity: positive-duration instance, filter composition, time strictly increases along a history -/
def posInstance : Instance := [[⟨[0, 1], 3⟩, ⟨[2], 2⟩], [⟨[1], 4⟩, ⟨[0, 2], 1⟩]]
example : PosDurI posInstance ∧ Valid posInstance := by
  have hv : Valid posInstance := valid_of_validB (by decide +kernel)
  refine ⟨?_, hv⟩
  intro j p op h
  have hall : posInstance.all (fun job => job.all fun op => decide (0 < op.dur)) = true := by decide +kernel
  obtain ⟨job, hjob, hopm⟩ := mem_of_getOp h
  simpa using List.all_eq_true.1 (List.all_eq_true.1 hall job hjob) op hopm
example :
    let c : Cfg := { I := posInstance, F := some [.dominated, .nonIdleMachines] }
    (currentTimePure c (run c []), currentTimePure c (run c [.disp 0 0 (some 0)]),
     currentTimePure c (run c [.disp 0 0 (some 0), .disp 1 0 none]),
     currentTimePure c (run c [.disp 0 0 (some 0), .disp 1 0 none, .disp 0 1 none, .disp 1 1 (some 0)])) =
    (0, 0, 3, 5) := by decide +kernel

end JS
