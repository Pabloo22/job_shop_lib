import JobShopModel.Staged
import JobShopProofs.Properties.C13
/-!
# C09 — rejected requests change nothing
-/
namespace JS

theorem World.dispatchStaged_cases (w : World) (j p : Nat) (m : Option Int) :
    (∃ e, w.dispatchStaged j p m = (w, .raised e)) ∨
    ∃ op z mnext, getOp w.cfg.I j p = some op ∧ w.s.jobIdx.getD j 0 = p ∧ resolveNone op m = .ok z ∧
      pyIndex w.s.machNext z = some mnext ∧ 0 ≤ z ∧ z.toNat ∈ op.machines ∧
      w.dispatchStaged j p m =
        (w.stagedCommit j p z.toNat ⟨j, p, z.toNat, max mnext (w.s.jobNext.getD j 0), op.dur⟩, .ok) := by
  generalize hr : w.dispatchStaged j p m = r
  unfold World.dispatchStaged at hr
  split at hr
  · exact .inl ⟨_, hr.symm⟩
  · next op hop =>
    split at hr
    · exact .inl ⟨_, hr.symm⟩
    · next hidx =>
      split at hr
      · exact .inl ⟨_, hr.symm⟩
      · next z hres =>
        split at hr
        · exact .inl ⟨_, hr.symm⟩
        · next mnext hpi =>
          split at hr
          · exact .inl ⟨_, hr.symm⟩
          · next hz =>
            dsimp only at hr
            split at hr
            · exact .inl ⟨_, hr.symm⟩
            · exact .inr ⟨op, z, mnext, hop, Decidable.not_not.1 hidx, hres, hpi, Int.not_lt.1 fun h => hz (.inl h),
                Decidable.not_not.1 fun h => hz (.inr h), hr.symm⟩

/-- **C09 (atomicity, statement level).** Whatever the request (any job/position of the instance, any
machine argument: out of range, negative, ineligible, `None` on a flexible operation), if the call raises
then the world at that moment — dispatcher, schedule, memo, every observer, the subscriber list — is the
world before the call: every `raise` precedes every mutation. -/
theorem C09_dispatch_atomic (w : World) (j p : Nat) (m : Option Int) (e : Err)
    (h : (w.dispatchStaged j p m).2 = .raised e) : (w.dispatchStaged j p m).1 = w := by
  rcases w.dispatchStaged_cases j p m with ⟨e', hs⟩ | ⟨_, _, _, _, _, _, _, _, _, hs⟩
  · rw [hs]
  · rw [hs] at h; cases h

theorem pyIndex_nat {α} (l : List α) (n : Nat) : pyIndex l (n : Int) = l[n]? := by
  simp [pyIndex]

theorem resolveMachine_ok_iff (op : Op) (m : Option Int) (mm : Nat) :
    resolveMachine op m = .ok mm ↔ resolveNone op m = .ok (mm : Int) ∧ mm ∈ op.machines := by
  cases m with
  | none =>
    simp only [resolveMachine, resolveNone]
    split
    · simp
    · cases op.machines with
      | nil => simp
      | cons m0 t =>
        simp only [Except.ok.injEq, Int.natCast_inj, List.mem_cons]
        exact ⟨fun h => ⟨h, .inl h.symm⟩, fun h => h.1⟩
  | some z =>
    simp only [resolveMachine, resolveNone, Except.ok.injEq]
    by_cases hz : z < 0
    · simp only [hz, ↓reduceIte, reduceCtorEq, false_iff, not_and]
      intro h; omega
    · simp only [hz, ↓reduceIte]
      constructor
      · intro h
        split at h
        · cases h; exact ⟨by omega, ‹_›⟩
        · cases h
      · rintro ⟨rfl, h⟩
        simp [h]
/-- **C09 (the two models agree).** In every well-formed world the statement-level execution and the
check-then-update `World.dispatch` produce the same world and the same outcome class (ok / raised). -/
theorem C09_staged_eq {w : World} (hw : WInv w) (hv : Valid w.cfg.I) (j p : Nat) (m : Option Int) :
    (w.dispatchStaged j p m).1 = (w.dispatch j p m).1 ∧
    ((w.dispatchStaged j p m).2 = .ok ↔ (w.dispatch j p m).2 = .ok) := by
  cases hd : dispatchReq w.cfg.I w.s j p m with
  | error e =>
    rw [World.dispatch_rejected w hd]
    rcases w.dispatchStaged_cases j p m with ⟨e', hs⟩ | ⟨op, z, _, hop, hidx, hres, _, hz, hmem, _⟩
    · rw [hs]; exact ⟨rfl, by simp⟩
    · -- a request that passes the staged checks is for a ready operation on an eligible machine
      obtain ⟨s', hs'⟩ := dispatch_accepts hw.inv.cinv hop hidx hmem
      have hrm := (resolveMachine_ok_iff op m z.toNat).2 ⟨by rw [hres, Int.toNat_of_nonneg hz], hmem⟩
      rw [dispatchReq_eq_dispatch hop hidx hrm, hs'] at hd
      cases hd
  | ok s' =>
    obtain ⟨mm, op, hrm, hsp⟩ := dispatchReq_spec hd
    obtain ⟨hres, hmem⟩ := (resolveMachine_ok_iff op m mm).1 hrm
    have hfind := find_new_entry hw.inv.cinv (hv j p op hsp.hop).2.2 hsp
    have hget : w.s.machNext[mm]? = some (w.s.machNext.getD mm 0) := by
      have : mm < w.s.machNext.length := hw.inv.cinv.wf.lenM ▸ hsp.machine_lt
      simp [List.getD_eq_getElem?_getD, List.getElem?_eq_getElem this]
    have hadd : addOk (w.s.sched.getD mm []) ⟨j, p, mm, max (w.s.machNext.getD mm 0) (w.s.jobNext.getD j 0), op.dur⟩
        = true := hsp.addok
    have hnot : ¬ ((mm : Int) < 0 ∨ ¬ mm ∈ op.machines) := fun h => h.elim (by omega) (· hmem)
    simp only [World.dispatch, hd, hfind, World.dispatchStaged, hsp.hop, hsp.hidx, ne_eq, not_true_eq_false,
      ↓reduceIte, hres, pyIndex_nat, hget, hnot, Int.toNat_natCast, hadd, Bool.not_true, Bool.false_eq_true,
      World.stagedCommit, and_true]
    rw [hsp.eq]
    simp [startTime, SOp.end_]

/-- **C09 (rejected requests, world level).** A rejected dispatch request leaves the whole world — the
dispatcher, its schedule and memo, the subscriber list and every observer — exactly as it was. -/
theorem C09_rejected_unchanged (w : World) (j p : Nat) (m : Option Int) (e : Err)
    (h : (w.dispatch j p m).2 = .raised e) : (w.dispatch j p m).1 = w := by
  unfold World.dispatch at h ⊢
  cases hd : dispatchReq w.cfg.I w.s j p m with
  | error e' => rfl
  | ok s' =>
    simp only [hd] at h
    split at h <;> simp at h

/-- **C09 (as if never made).** Inserting a rejected request anywhere in a history does not change the
world the history produces — subsequent requests behave as if it had never been made. -/
theorem C09_as_if_never (c : Cfg) (h1 h2 : List WEv) (j p : Nat) (m : Option Int) (e : Err)
    (hrej : ((World.run c h1).dispatch j p m).2 = .raised e) :
    World.run c (h1 ++ [.disp j p m] ++ h2) = World.run c (h1 ++ h2) := by
  rw [List.append_assoc]
  exact foldl_skip_of_fixed World.step _ h1 h2 _ (C09_rejected_unchanged _ j p m e hrej)

/-- which requests are rejected: not the next operation of its job, or a machine the operation is not
eligible for (any integer, in or out of range), or no machine given for a flexible operation -/
theorem C09_rejects (c : Cfg) (hv : Valid c.I) (evs : List Ev) (j p : Nat) (m : Option Int) (op : Op)
    (hop : getOp c.I j p = some op)
    (hbad : (run c evs).jobIdx.getD j 0 ≠ p ∨ (∃ z, m = some z ∧ (z < 0 ∨ z.toNat ∉ op.machines)) ∨
      (m = none ∧ op.machines.length > 1)) :
    ∃ e, dispatchReq c.I (run c evs) j p m = .error e := by
  unfold dispatchReq
  simp only [hop]
  by_cases hidx : (run c evs).jobIdx.getD j 0 ≠ p
  · simp only [if_pos hidx]; exact ⟨_, rfl⟩
  · simp only [if_neg hidx]
    rcases hbad with h | ⟨z, rfl, hz⟩ | ⟨rfl, hlen⟩
    · exact absurd h hidx
    · simp only [resolveMachine]
      rcases hz with hz | hz
      · simp [hz]
      · by_cases hneg : z < 0
        · simp [hneg]
        · simp [hneg, hz]
    · simp [resolveMachine, hlen]

/-! non-vacuity: three kinds of rejected request in a world with observers -/
example :
    let c : Cfg := { I := exampleInstance }
    let w := World.run c [.construct .history, .construct .recorder, .disp 1 0 none]
    ((w.dispatchStaged 0 1 none).2, (w.dispatchStaged 0 0 (some 7)).2, (w.dispatchStaged 0 0 (some (-1))).2,
     (w.dispatchStaged 0 0 none).2, (w.dispatchStaged 0 0 (some 3)).2) =
    (.raised .notReady, .raised .badMachine, .raised .badMachine, .raised .uninit, .raised .badMachine) := by decide +kernel

end JS
