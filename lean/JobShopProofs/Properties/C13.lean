import JobShopProofs.Properties.C10
/-!
# C13 — dense rewards add up to the sparse objective
-/
namespace JS

theorem makespan_init (I : Instance) : makespan (init I) = 0 := by
  unfold makespan init
  simp only
  generalize numMachines I = n
  induction n with
  | zero => rfl
  | succ n ih => simpa [List.replicate_succ, makespanStep] using ih

theorem accepted_entry {c : Cfg} (hv : Valid c.I) {s s' : State} {j p : Nat} {m : Option Int} (hi : Inv c s)
    (hd : dispatchReq c.I s j p m = .ok s') {x : SOp} (hx : x ∈ s'.sched.flatten) (hj : x.job = j) (hp : x.pos = p) :
    ∃ mm op, DispSpec c.I s s' j p mm op ∧ x = ⟨j, p, mm, startTime s j mm, op.dur⟩ ∧
      s'.sched.flatten.Perm (s.sched.flatten ++ [x]) ∧ Inv c s' := by
  obtain ⟨mm, op, _, hsp⟩ := dispatchReq_spec hd
  have hi' := inv_dispatchReq hv hi hd
  have hperm := hsp.flatten_perm hi.cinv.wf
  obtain rfl : x = ⟨j, p, mm, startTime s j mm, op.dur⟩ :=
    cinv_uniq hi'.cinv hx ((hsp.mem_flatten hi.cinv.wf _).2 (.inr rfl)) hj hp
  exact ⟨mm, op, hsp, rfl, hperm, hi'⟩

theorem makespan_dispatch {c : Cfg} (hv : Valid c.I) {s s' : State} {j p : Nat} {m : Option Int} (hi : Inv c s)
    (hd : dispatchReq c.I s j p m = .ok s') {x : SOp} (hx : x ∈ s'.sched.flatten) (hj : x.job = j) (hp : x.pos = p) :
    makespan s' = max (makespan s) x.end_ := by
  obtain ⟨mm, op, hsp, hxe, hperm, hi'⟩ := accepted_entry hv hi hd hx hj hp
  obtain ⟨hub, hatt, h0⟩ := makespan_spec hi.cinv
  obtain ⟨hub', hatt', h0'⟩ := makespan_spec hi'.cinv
  -- both sides bound every end time of the new schedule and are attained in it (or 0)
  refine Int.le_antisymm ?_ (Int.max_le.2 ⟨?_, hub' x hx⟩)
  · rcases hatt' with h | ⟨y, hy, he⟩
    · exact h ▸ Int.le_trans h0 (Int.le_max_left _ _)
    · rcases List.mem_append.1 (hperm.mem_iff.1 hy) with hy | hy
      · exact he ▸ Int.le_trans (hub y hy) (Int.le_max_left _ _)
      · exact he ▸ List.mem_singleton.1 hy ▸ Int.le_max_right _ _
  · rcases hatt with h | ⟨y, hy, he⟩
    · exact h ▸ h0'
    · exact he ▸ hub' y (hperm.mem_iff.2 (List.mem_append_left _ hy))

theorem sum_append_singleton (l : List Int) (a : Int) : (l ++ [a]).sum = l.sum + a := by
  simp [List.sum_append]

/-- a list of non-positive rewards that sums to minus a potential stays one when the potential grows from `a`
to `b` and `a - b` is appended -/
theorem rewards_append {α} {rs : List Int} {a b : Int} {acc : List α} (x : α)
    (h : rs.sum = -a ∧ (∀ r ∈ rs, r ≤ 0) ∧ rs.length = acc.length) (hb : a ≤ b) :
    (rs ++ [a - b]).sum = -b ∧ (∀ r ∈ rs ++ [a - b], r ≤ 0) ∧ (rs ++ [a - b]).length = (acc ++ [x]).length := by
  obtain ⟨h1, h2, h3⟩ := h
  refine ⟨by rw [sum_append_singleton, h1]; omega, fun r hr => ?_, by simp only [List.length_append, h3]; rfl⟩
  rcases List.mem_append.1 hr with hr | hr
  · exact h2 r hr
  · rw [List.mem_singleton.1 hr]; omega

/-- **C13 (makespan reward).** For a makespan-reward observer created on the fresh dispatcher and never
unsubscribed, after every history: exactly one reward per accepted dispatch since the last reset, each
non-positive, and their sum is minus the current makespan. -/
theorem C13_makespan_sum (c : Cfg) (hv : Valid c.I) (evs : List WEv) (hno : ∀ e ∈ evs, e ≠ .unsub 0) :
    let w := World.run c (.construct .makespanReward :: evs)
    ∃ o, w.heap[0]? = some o ∧ o.rewards.sum = - makespan w.s ∧ (∀ r ∈ o.rewards, r ≤ 0) ∧
      o.rewards.length = w.accepted.length ∧ o.curMakespan = makespan w.s := by
  intro w
  obtain ⟨o, ho, _, _, h1, h2, h3, h4⟩ := obs0_run c hv .makespanReward
    (fun s acc o => o.curMakespan = makespan s ∧ o.rewards.sum = - makespan s ∧ (∀ r ∈ o.rewards, r ≤ 0) ∧
      o.rewards.length = acc.length)
    (fun _ _ _ _ h => h)
    (by simp [Obs.construct, makespan_init])
    (by
      intro s s' j p m x acc o hi hd hx hj hp hk ⟨h1, h2⟩
      simp only [Obs.updateSpec, hk]
      rw [h1, ← makespan_dispatch hv hi hd hx hj hp]
      exact ⟨rfl, rewards_append x h2 (makespan_dispatch hv hi hd hx hj hp ▸ Int.le_max_left _ _)⟩)
    (by intro s acc o hk _; simp [Obs.resetSpec, hk, makespan_init])
    evs hno
  exact ⟨o, ho, h2, h3, h4, h1⟩

/-- end of the last operation of a machine list (0 if empty) -/
def lastEndOf (ms : List SOp) : Int := (ms.getLast?.map SOp.end_).getD 0

/-- idle time of one machine up to its last operation: its last end minus the work it did -/
def idleOf (ms : List SOp) : Int := lastEndOf ms - (ms.map (·.dur)).sum

/-- total idle time of all machines up to their last operation -/
def idleTotal (s : State) : Int := (s.sched.map idleOf).sum

theorem sum_map_modify {α} (g : α → Int) (f : α → α) : ∀ (l : List α) (m : Nat) (h : m < l.length),
    ((l.modify m f).map g).sum = (l.map g).sum - g l[m] + g (f l[m])
  | [], _, h => by simp at h
  | a :: t, 0, _ => by simp only [List.modify_zero_cons, List.map_cons, List.sum_cons, List.getElem_cons_zero]; omega
  | a :: t, m+1, h => by
    simp only [List.modify_succ_cons, List.map_cons, List.sum_cons, List.getElem_cons_succ]
    rw [sum_map_modify g f t m (by simpa using h)]; omega

theorem idleTotal_init (I : Instance) : idleTotal (init I) = 0 := by
  simp [idleTotal, init, idleOf, lastEndOf]

theorem idleOf_append (ms : List SOp) (x : SOp) : idleOf (ms ++ [x]) = idleOf ms + (x.start - lastEndOf ms) := by
  simp only [idleOf, lastEndOf, List.getLast?_append, List.getLast?_singleton, List.map_append, List.map_cons,
    List.map_nil, List.sum_append, List.sum_cons, List.sum_nil, SOp.end_, Option.some_or, Option.map_some,
    Option.getD_some]
  omega

theorem idleGap_eq (ms : List SOp) (x : SOp) : idleGap ms x = x.start - lastEndOf ms := by
  unfold idleGap lastEndOf
  cases ms.getLast? <;> simp

theorem idle_dispatch {c : Cfg} (hv : Valid c.I) {s s' : State} {j p : Nat} {m : Option Int} (hi : Inv c s)
    (hd : dispatchReq c.I s j p m = .ok s') {x : SOp} (hx : x ∈ s'.sched.flatten) (hj : x.job = j) (hp : x.pos = p) :
    idleTotal s' = idleTotal s + idleGap (s'.sched.getD x.machine []).dropLast x ∧
    0 ≤ idleGap (s'.sched.getD x.machine []).dropLast x := by
  obtain ⟨mm, op, hsp, rfl, _, _⟩ := accepted_entry hv hi hd hx hj hp
  have hlenS : mm < s.sched.length := hi.cinv.wf.lenS ▸ hsp.machine_lt
  have hget : s.sched.getD mm [] = s.sched[mm] := by
    simp [List.getD_eq_getElem?_getD, List.getElem?_eq_getElem hlenS]
  -- the machine's list after the dispatch is its old list with the new entry at the end
  rw [hsp.sched_getD hi.cinv.wf, if_pos rfl, hget, List.dropLast_concat, idleGap_eq]
  constructor
  · unfold idleTotal
    rw [hsp.eq]
    simp only
    rw [sum_map_modify idleOf _ s.sched mm hlenS, idleOf_append]
    simp only
    omega
  · have hlast : s.machNext.getD mm 0 = lastEndOf s.sched[mm] := hget ▸ hi.cinv.lastEnd mm
    exact Int.sub_nonneg_of_le (hlast ▸ Int.le_max_left _ _)

/-- **C13 (idle-time reward).** For an idle-time-reward observer created on the fresh dispatcher and never
unsubscribed, after every history: exactly one reward per accepted dispatch since the last reset, each
non-positive, and their sum is minus the total idle time of all machines up to their last operation. -/
theorem C13_idle_sum (c : Cfg) (hv : Valid c.I) (evs : List WEv) (hno : ∀ e ∈ evs, e ≠ .unsub 0) :
    let w := World.run c (.construct .idleReward :: evs)
    ∃ o, w.heap[0]? = some o ∧ o.rewards.sum = - idleTotal w.s ∧ (∀ r ∈ o.rewards, r ≤ 0) ∧
      o.rewards.length = w.accepted.length := by
  intro w
  obtain ⟨o, ho, _, _, h⟩ := obs0_run c hv .idleReward
    (fun s acc o => o.rewards.sum = - idleTotal s ∧ (∀ r ∈ o.rewards, r ≤ 0) ∧ o.rewards.length = acc.length)
    (fun _ _ _ _ h => h)
    (by simp [Obs.construct, idleTotal_init])
    (by
      intro s s' j p m x acc o hi hd hx hj hp hk h
      obtain ⟨hidle, hgap⟩ := idle_dispatch hv hi hd hx hj hp
      simp only [Obs.updateSpec, hk]
      rw [show -idleGap (s'.sched.getD x.machine []).dropLast x = idleTotal s - idleTotal s' by omega]
      exact rewards_append x h (by omega))
    (by intro s acc o hk _; simp [Obs.resetSpec, hk, idleTotal_init])
    evs hno
  exact ⟨o, ho, h⟩

/-! non-vacuity: rewards with a dispatch that does not extend the makespan and one that leaves a gap -/
example :
    let c : Cfg := { I := exampleInstance }
    let w := World.run c [.construct .makespanReward, .construct .idleReward, .disp 1 0 none, .disp 0 0 (some 0),
      .disp 0 1 none]
    (w.heap[0]?.map (·.rewards)) = some [-4, 0, 0] ∧ (w.heap[1]?.map (·.rewards)) = some [0, 0, -3] ∧
    makespan w.s = 4 ∧ idleTotal w.s = 3 := by decide +kernel

end JS
