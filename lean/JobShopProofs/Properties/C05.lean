import JobShopProofs.Properties.C02
import JobShopProofs.Lemmas.Filters
/-!
# C05 — state queries agree with the schedule, whatever was asked before

`spec c s q` (in `JobShopModel/Events.lean`) is the from-scratch answer: it never reads the memo table.
`C05_answers`: in every reachable state, after any finite sequence of earlier queries (any order, any
repetition), the method call returns `spec`.  The remaining theorems tie `spec` itself to the *schedule*:
scheduled = the operations that appear in the schedule, unscheduled = the others, ongoing = scheduled
operations that end after the current time, and the partition laws.
-/
namespace JS

/-- ask a list of queries one after the other; return the answers -/
def askAll (c : Cfg) : State → List Query → List Answer × State
  | s, [] => ([], s)
  | s, q :: qs => let r := ask c s q; let rs := askAll c r.2 qs; (r.1 :: rs.1, rs.2)

theorem askAll_ok (c : Cfg) : ∀ (qs : List Query) (s : State), CacheOK c s →
    (askAll c s qs).1 = qs.map (spec c s) ∧ CacheOK c (askAll c s qs).2 ∧ ∃ k, (askAll c s qs).2 = setCache s k
  | [], s, h => ⟨rfl, h, ⟨s.cache, rfl⟩⟩
  | q :: qs, s, h => by
    obtain ⟨hv, hok, k, hk⟩ := ask_ok c s h q
    obtain ⟨hv2, hok2, k2, hk2⟩ := askAll_ok c qs (ask c s q).2 hok
    refine ⟨?_, hok2, ⟨k2, ?_⟩⟩
    · rw [hk] at hv2
      simp only [askAll, List.map_cons, hv, hk, hv2]
      have : spec c (setCache s k) = spec c s := funext (C05_spec_ignores_memo c s k)
      rw [this]
    · simp only [askAll]; rw [hk2, hk]; rfl

/-- **C05 (answers).** In every reachable state, every answer in any finite sequence of queries equals
the from-scratch `spec` of that state: no answer depends on which queries came before, how often, or
in what order. -/
theorem C05_answers (c : Cfg) (hv : Valid c.I) (evs : List Ev) (qs : List Query) :
    (askAll c (run c evs) qs).1 = qs.map (spec c (run c evs)) :=
  (askAll_ok c qs _ (inv_run hv evs).cache).1

/-- **C05 (no stale memo).** Every accepted dispatch and every reset leaves the memo empty, so no answer
can reflect an earlier state. -/
theorem C05_no_stale (c : Cfg) (s : State) (e : Ev) :
    (∀ j p m s', e = .disp j p m → dispatchReq c.I s j p m = .ok s' → (stepEv c s e).1.cache = {}) ∧
    (e = .reset → (stepEv c s e).1.cache = {}) := by
  constructor
  · intro j p m s' he hd
    subst he
    obtain ⟨_, _, _, hsp⟩ := dispatchReq_spec hd
    simp only [stepEv, hd]
    exact hsp.cache
  · intro he; subst he; rfl

theorem mem_scheduledPure (I : Instance) (s : State) (r : OpRef) :
    r ∈ scheduledPure I s ↔ (getOp I r.1 r.2).isSome ∧ r.2 < s.jobIdx.getD r.1 0 := by
  have hf : ∀ j p, p ∈ (List.range (I.getD j []).length).take (s.jobIdx.getD j 0) ↔
      p < (I.getD j []).length ∧ p < s.jobIdx.getD j 0 := by
    intro j p; rw [List.take_range, List.mem_range]; omega
  rw [getD_length_of_getOp, ← hf]
  exact mem_flatMap_refs I _ (fun j p h => ((hf j p).1 h).1) r

theorem mem_unscheduledPure (I : Instance) (s : State) (r : OpRef) :
    r ∈ unscheduledPure I s ↔ (getOp I r.1 r.2).isSome ∧ s.jobIdx.getD r.1 0 ≤ r.2 := by
  have hf : ∀ j p, p ∈ (List.range (I.getD j []).length).drop (s.jobIdx.getD j 0) ↔
      p < (I.getD j []).length ∧ s.jobIdx.getD j 0 ≤ p := by
    intro j p; rw [List.range_eq_range', List.drop_range', List.mem_range'_1]; omega
  rw [getD_length_of_getOp, ← hf]
  exact mem_flatMap_refs I _ (fun j p h => ((hf j p).1 h).1) r

theorem cinv_lt_jobIdx_iff {I : Instance} {s : State} (h : CInv I s) (r : OpRef) :
    r.2 < s.jobIdx.getD r.1 0 ↔ ∃ x ∈ s.sched.flatten, (x.job, x.pos) = r := by
  obtain ⟨a, hr, ha, _⟩ := h.abs
  rw [← hr.idx]
  constructor
  · intro h
    obtain ⟨x, hx, h1, h2⟩ := ha.idx_sched r.1 r.2 h
    exact ⟨x, hr.sched.mem_iff.1 hx, by rw [h1, h2]⟩
  · rintro ⟨x, hx, rfl⟩
    exact ha.sched_lt x (hr.sched.mem_iff.2 hx)

theorem cinv_mem_scheduledPure {I : Instance} {s : State} (hc : CInv I s) (r : OpRef) :
    r ∈ scheduledPure I s ↔ ∃ x ∈ s.sched.flatten, (x.job, x.pos) = r := by
  rw [mem_scheduledPure, cinv_lt_jobIdx_iff hc r]
  refine ⟨fun h => h.2, fun h => ⟨?_, h⟩⟩
  obtain ⟨x, hx, rfl⟩ := h
  obtain ⟨op, hop, _⟩ := (feasible_of_cinv hc).isOp x hx
  exact Option.isSome_of_eq_some hop

theorem cinv_mem_unscheduledPure {I : Instance} {s : State} (hc : CInv I s) (r : OpRef) :
    r ∈ unscheduledPure I s ↔ (getOp I r.1 r.2).isSome ∧ ¬ ∃ x ∈ s.sched.flatten, (x.job, x.pos) = r := by
  rw [mem_unscheduledPure, ← cinv_lt_jobIdx_iff hc r, Nat.not_lt]

/-- **C05 (scheduled = in the schedule).** In every reachable state an operation is reported scheduled
exactly when it occurs in the schedule, and unscheduled exactly when it is an operation of the instance
that does not. -/
theorem C05_scheduled_iff (c : Cfg) (hv : Valid c.I) (evs : List Ev) (r : OpRef) :
    let s := run c evs
    (r ∈ scheduledPure c.I s ↔ ∃ x ∈ s.sched.flatten, (x.job, x.pos) = r) ∧
    (r ∈ unscheduledPure c.I s ↔ (getOp c.I r.1 r.2).isSome ∧ ¬ ∃ x ∈ s.sched.flatten, (x.job, x.pos) = r) :=
  have hc := (inv_run hv evs).cinv
  ⟨cinv_mem_scheduledPure hc r, cinv_mem_unscheduledPure hc r⟩

/-- **C05 (partition 1).** Scheduled and unscheduled operations partition the operations of the instance. -/
theorem C05_partition_sched (I : Instance) (s : State) (r : OpRef) :
    ((getOp I r.1 r.2).isSome ↔ (r ∈ scheduledPure I s ∨ r ∈ unscheduledPure I s)) ∧
    ¬ (r ∈ scheduledPure I s ∧ r ∈ unscheduledPure I s) := by
  rw [mem_scheduledPure, mem_unscheduledPure]
  constructor
  · constructor
    · intro h
      by_cases hlt : r.2 < s.jobIdx.getD r.1 0
      · left; exact ⟨h, hlt⟩
      · right; exact ⟨h, by omega⟩
    · rintro (h | h) <;> exact h.1
  · rintro ⟨h1, h2⟩; omega

/-- **C05 (ongoing).** In every reachable state the ongoing operations are exactly the scheduled operations
that end after the current time (so the backwards scan with `break` loses nothing). -/
theorem C05_ongoing_iff (c : Cfg) (hv : Valid c.I) (evs : List Ev) (x : SOp) :
    let s := run c evs
    x ∈ ongoingPure c s ↔ x ∈ s.sched.flatten ∧ currentTimePure c s < x.end_ :=
  cinv_mem_ongoingAt (inv_run hv evs).cinv _ x

theorem mem_sortRefs (I : Instance) (l : List OpRef) (r : OpRef) :
    r ∈ sortRefs I l ↔ r ∈ allOps I ∧ r ∈ l := by
  simp [sortRefs]

theorem mem_ongoing_keys {c : Cfg} {s : State} (hc : CInv c.I s) (r : OpRef) :
    r ∈ (ongoingPure c s).map (fun x => (x.job, x.pos)) ↔
      ∃ x ∈ s.sched.flatten, (x.job, x.pos) = r ∧ currentTimePure c s < x.end_ := by
  rw [List.mem_map]
  constructor
  · rintro ⟨x, hx, hk⟩
    obtain ⟨h1, h2⟩ := (cinv_mem_ongoingAt hc _ x).1 hx
    exact ⟨x, h1, hk, h2⟩
  · rintro ⟨x, h1, hk, h2⟩
    exact ⟨x, (cinv_mem_ongoingAt hc _ x).2 ⟨h1, h2⟩, hk⟩

theorem mem_completedPure {c : Cfg} {s : State} (hc : CInv c.I s) (r : OpRef) :
    r ∈ completedPure c s ↔ ∃ x ∈ s.sched.flatten, (x.job, x.pos) = r ∧ x.end_ ≤ currentTimePure c s := by
  simp only [completedPure, mem_sortRefs, List.mem_filter, Bool.not_eq_true', List.contains_eq_mem,
    decide_eq_false_iff_not, mem_ongoing_keys hc, cinv_mem_scheduledPure hc]
  constructor
  · rintro ⟨_, ⟨x, hx, hkey⟩, hnog⟩
    exact ⟨x, hx, hkey, Int.not_lt.1 fun hlt => hnog ⟨x, hx, hkey, hlt⟩⟩
  · rintro ⟨x, hx, rfl, hend⟩
    obtain ⟨op, hop, _⟩ := (feasible_of_cinv hc).isOp x hx
    refine ⟨(mem_allOps' c.I _).2 (Option.isSome_of_eq_some hop), ⟨x, hx, rfl⟩, fun ⟨y, hy, hykey, hlt⟩ => ?_⟩
    rw [cinv_uniq hc hy hx (Prod.mk.inj hykey).1 (Prod.mk.inj hykey).2] at hlt
    exact Int.not_le.2 hlt hend

theorem completed_mono {c : Cfg} {s s' : State} (hi : CInv c.I s) (hi' : CInv c.I s')
    (hsub : ∀ x ∈ s.sched.flatten, x ∈ s'.sched.flatten)
    (hmono : currentTimePure c s ≤ currentTimePure c s') (r : OpRef) :
    r ∈ completedPure c s → r ∈ completedPure c s' := by
  rw [mem_completedPure hi, mem_completedPure hi']
  rintro ⟨x, hx, hk, he⟩
  exact ⟨x, hsub x hx, hk, Int.le_trans he hmono⟩

theorem cinv_partition_ongoing {c : Cfg} {s : State} (hc : CInv c.I s) (r : OpRef) :
    (r ∈ scheduledPure c.I s ↔ (r ∈ completedPure c s ∨ r ∈ (ongoingPure c s).map fun x => (x.job, x.pos))) ∧
    ¬ (r ∈ completedPure c s ∧ r ∈ (ongoingPure c s).map fun x => (x.job, x.pos)) := by
  rw [cinv_mem_scheduledPure hc, mem_completedPure hc, mem_ongoing_keys hc]
  refine ⟨⟨fun ⟨x, hx, hk⟩ => ?_, fun h => h.elim (fun ⟨x, hx, hk, _⟩ => ⟨x, hx, hk⟩) fun ⟨x, hx, hk, _⟩ => ⟨x, hx, hk⟩⟩,
    fun ⟨⟨x, hx, hk, hle⟩, y, hy, hk', hlt⟩ => ?_⟩
  · exact (Int.lt_or_le (currentTimePure c s) x.end_).symm.imp (fun h => ⟨x, hx, hk, h⟩) fun h => ⟨x, hx, hk, h⟩
  · have hkk := hk.trans hk'.symm
    rw [cinv_uniq hc hx hy (Prod.mk.inj hkk).1 (Prod.mk.inj hkk).2] at hle
    exact Int.not_le.2 hlt hle

/-- **C05 (partition 2).** Ongoing and completed partition the scheduled operations; uncompleted is
unscheduled followed by ongoing. -/
theorem C05_partition_ongoing (c : Cfg) (hv : Valid c.I) (evs : List Ev) (r : OpRef) :
    let s := run c evs
    (r ∈ scheduledPure c.I s ↔ (r ∈ completedPure c s ∨ r ∈ (ongoingPure c s).map fun x => (x.job, x.pos))) ∧
    ¬ (r ∈ completedPure c s ∧ r ∈ (ongoingPure c s).map fun x => (x.job, x.pos)) ∧
    uncompletedPure c s = unscheduledPure c.I s ++ (ongoingPure c s).map fun x => (x.job, x.pos) :=
  have h := cinv_partition_ongoing (inv_run hv evs).cinv r
  ⟨h.1, h.2, rfl⟩

/-- non-vacuity: a reachable state with an ongoing, a completed and unscheduled operations; the query
sequence asks `uncompleted` before `unscheduled` (the order that exposed the aliasing defect) -/
example :
    let c : Cfg := { I := exampleInstance, F := some [.dominated] }
    let s := run c [.disp 1 0 (some 1), .disp 0 0 (some 0)]
    (askAll c s [.uncompleted, .unscheduled, .ongoing, .completed, .currentTime]).1 =
      [.refs [(0, 1), (0, 2), (1, 1), (1, 0)], .refs [(0, 1), (0, 2), (1, 1)],
       .sops [⟨1, 0, 1, 0, 4⟩], .refs [(0, 0)], .int 3] := by decide +kernel

end JS
