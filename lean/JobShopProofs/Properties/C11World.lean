import JobShopProofs.FeatureWorld
import JobShopProofs.EstSemantics
/-!
# C11 at full strength on the model: every reachable feature world

`C11_world`: construct any observers on the fresh dispatcher (any kinds, feature-type subsets, order; helpers are created
lazily as in the code; composites and graph updaters may be in the list), then run ANY sequence of dispatch requests
(accepted or rejected, any machine choices) and resets.  In the world reached, every subscribed feature observer
reports, on the entities the property names, the from-scratch specification of `FeatureSpecs.lean` evaluated on the
current dispatcher state.  The unpacked statements below restate the clauses of `ObsVal` one observer at a time.

Hypotheses are those of the property: valid instance; with a filter installed, positive durations; machine-level
counts of `DurationObserver` / `RemainingOperationsObserver`: non-flexible instances.  The operation-level
`DurationObserver` value of a running operation is the recorded known finding (not claimed: `DurOpsOK` speaks about
unscheduled operations only).
-/
namespace JS

/-- the worlds the property quantifies over -/
structure Reached (c : Cfg) (w : FWorld) : Prop where
  ex : ∃ ctors evs : List FEv, (∀ e ∈ ctors, e.isCtor = true) ∧ (∀ e ∈ ctors, e.NodupFts) ∧
    (∀ e ∈ evs, e.isCtor = false) ∧ w = FWorld.run c (ctors ++ evs)

/-- **C11 (every observer, every feature, every history).** -/
theorem C11_world (c : Cfg) (hv : Valid c.I) (hF : c.F = none ∨ PosDurI c.I) (w : FWorld) (hw : Reached c w) :
    ∀ id ∈ w.subs, ∀ o, w.heap[id]? = some o → ObsVal c w.s o := by
  obtain ⟨ctors, evs, hct, hnd, hev, rfl⟩ := hw.ex
  obtain ⟨h, hc⟩ := finv_run c hv hF ctors evs hct hnd hev
  intro id hid o ho
  have := h.val id hid o ho
  rwa [hc] at this

section unpacked
variable (c : Cfg) (hv : Valid c.I) (hF : c.F = none ∨ PosDurI c.I) (w : FWorld) (hw : Reached c w)
variable (id : Nat) (hid : id ∈ w.subs) (o : FObs) (ho : w.heap[id]? = some o)
include hv hF hw hid ho

/-- readiness: indicator of the available operations / their machines / their jobs -/
theorem C11_world_isReady (hk : o.kind = .isReady) (ft : FT) (hft : ft ∈ o.fts) :
    o.col ft = indicator (numEntities c.I ft) (readyIds c w.s ft) :=
  (C11_world c hv hF w hw id hid o ho).ready hk ft hft

/-- earliest start of every unscheduled operation, relative to the current time -/
theorem C11_world_est_ops (hk : o.kind = .earliestStart) (hft : FT.operations ∈ o.fts) (r : OpRef)
    (hr : r ∈ unscheduledPure c.I w.s) :
    (o.col .operations).getD (opId c.I r) 0 = estSpec c.I w.s r - currentTimePure c w.s :=
  (C11_world c hv hF w hw id hid o ho).estOps hk hft r hr

theorem C11_world_est_machines (hk : o.kind = .earliestStart) (hft : FT.machines ∈ o.fts) (m : Nat)
    (hm : m < numMachines c.I) :
    (o.col .machines).getD m 0 =
      ((((unscheduledPure c.I w.s).filter (onMachine c.I m)).map (estSpec c.I w.s)).min?).getD 0
        - currentTimePure c w.s :=
  (C11_world c hv hF w hw id hid o ho).estMach hk hft m hm

theorem C11_world_est_jobs (hk : o.kind = .earliestStart) (hft : FT.jobs ∈ o.fts) (j : Nat) (hj : j < c.I.length)
    (hleft : w.s.jobIdx.getD j 0 < (c.I.getD j []).length) :
    (o.col .jobs).getD j 0 = estSpec c.I w.s (j, w.s.jobIdx.getD j 0) - currentTimePure c w.s :=
  (C11_world c hv hF w hw id hid o ho).estJobs hk hft j hj hleft

/-- duration: unscheduled operations keep their duration; jobs (and machines of non-flexible instances) report the
total duration of their unscheduled operations -/
theorem C11_world_duration_ops (hk : o.kind = .duration) (hft : FT.operations ∈ o.fts) (r : OpRef)
    (hr : r ∈ unscheduledPure c.I w.s) : (o.col .operations).getD (opId c.I r) 0 = opDurF c.I r :=
  ((C11_world c hv hF w hw id hid o ho).durOps hk hft).2 r hr

theorem C11_world_duration_jobs (hk : o.kind = .duration) (hft : FT.jobs ∈ o.fts) :
    o.col .jobs = durJobsSpec c.I w.s :=
  (C11_world c hv hF w hw id hid o ho).durJobs hk hft

theorem C11_world_duration_machines (hk : o.kind = .duration) (hn : NonFlexG c.I) (hft : FT.machines ∈ o.fts) :
    o.col .machines = durMachSpec c.I w.s :=
  (C11_world c hv hF w hw id hid o ho).durMach hk hn hft

/-- scheduled flag and numbers of ongoing operations -/
theorem C11_world_isScheduled_ops (hk : o.kind = .isScheduled) (hft : FT.operations ∈ o.fts) :
    o.col .operations = schedOpsSpec c.I w.s :=
  (C11_world c hv hF w hw id hid o ho).schOps hk hft

theorem C11_world_isScheduled_machines (hk : o.kind = .isScheduled) (hft : FT.machines ∈ o.fts) :
    o.col .machines = ongoingMachSpec c w.s :=
  (C11_world c hv hF w hw id hid o ho).schMach hk hft

theorem C11_world_isScheduled_jobs (hk : o.kind = .isScheduled) (hft : FT.jobs ∈ o.fts) :
    o.col .jobs = ongoingJobsSpec c w.s :=
  (C11_world c hv hF w hw id hid o ho).schJobs hk hft

/-- position among the unscheduled operations of the job -/
theorem C11_world_position (hk : o.kind = .positionInJob) (hft : FT.operations ∈ o.fts) (r : OpRef)
    (hr : r ∈ unscheduledPure c.I w.s) : (o.col .operations).getD (opId c.I r) 0 = posSpec w.s r :=
  ((C11_world c hv hF w hw id hid o ho).pos hk hft).2 r hr

theorem C11_world_remaining_jobs (hk : o.kind = .remainingOps) (hft : FT.jobs ∈ o.fts) :
    o.col .jobs = remJobsSpec c.I w.s :=
  (C11_world c hv hF w hw id hid o ho).remJobs hk hft

theorem C11_world_remaining_machines (hk : o.kind = .remainingOps) (hn : NonFlexG c.I) (hft : FT.machines ∈ o.fts) :
    o.col .machines = remMachSpec c.I w.s :=
  (C11_world c hv hF w hw id hid o ho).remMach hk (Or.inl hn) hft

/-- completion flags (flexible instances included) -/
theorem C11_world_completed_ops (hk : o.kind = .isCompleted) (hft : FT.operations ∈ o.fts) :
    o.col .operations = complOpsSpec c w.s :=
  (C11_world c hv hF w hw id hid o ho).cmpOps hk hft

theorem C11_world_completed_jobs (hk : o.kind = .isCompleted) (hft : FT.jobs ∈ o.fts) :
    o.col .jobs = complJobsSpec c.I w.s :=
  ((C11_world c hv hF w hw id hid o ho).cmpJobs hk hft).2

theorem C11_world_completed_machines (hk : o.kind = .isCompleted) (hft : FT.machines ∈ o.fts) :
    o.col .machines = complMachSpec c.I w.s :=
  ((C11_world c hv hF w hw id hid o ho).cmpMach hk hft).2

/-- the per-job lists of `UnscheduledOperationsObserver` -/
theorem C11_world_unscheduled (hk : o.kind = .unscheduled) : o.deques = dequesSpec c.I w.s :=
  (C11_world c hv hF w hw id hid o ho).unsched hk

end unpacked

/-! ## non-vacuity: a concrete reachable world with every observer, helpers created lazily, a flexible instance -/

def c11Instance : Instance := [[⟨[0, 1], 3⟩, ⟨[1], 2⟩], [⟨[1], 4⟩, ⟨[0], 1⟩, ⟨[1], 0⟩]]

def c11Ctors : List FEv :=
  [.construct .isCompleted none, .construct .earliestStart (some [.jobs, .operations]), .construct .duration none,
   .construct .positionInJob none, .construct .isScheduled none, .construct .isReady (some [.machines]),
   .construct .remainingOps none, .composite none, .residual .agentTask true true]

def c11Events : List FEv := [.disp 0 0 (some 1), .disp 1 0 none, .disp 0 0 none, .reset, .disp 1 0 (some 1), .disp 1 1 none]

example : Reached { I := c11Instance } (FWorld.run { I := c11Instance } (c11Ctors ++ c11Events)) :=
  ⟨c11Ctors, c11Events, by decide +kernel,
    by intro e he; simp only [c11Ctors, List.mem_cons, List.not_mem_nil, or_false] at he
       rcases he with rfl | rfl | rfl | rfl | rfl | rfl | rfl | rfl | rfl <;> simp [FEv.NodupFts],
    by decide +kernel, rfl⟩

example : Valid c11Instance := valid_of_validB (by decide)

set_option maxRecDepth 100000 in
/-- in that world: 11 subscribers (2 helpers were created lazily), two accepted dispatches since the reset -/
example : (FWorld.run { I := c11Instance } (c11Ctors ++ c11Events)).subs.length = 11 ∧
    numScheduled (FWorld.run { I := c11Instance } (c11Ctors ++ c11Events)).s = 2 := by decide +kernel

end JS
