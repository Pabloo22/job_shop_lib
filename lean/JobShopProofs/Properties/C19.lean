import JobShopModel.Generator
/-!
# C19 — generated instances respect the requested shape and seed

The generator is a function of its parameters and of the stream of draws its own `random.Random` produces;
the theorems hold for *every* stream (so for every seed), constrained only by what `randint`/`choice`
guarantee.
-/
namespace JS

theorem randintN_spec {a b : Nat} {draws : List Nat} {v : Nat} {d : List Nat}
    (h : randintN a b draws = .ok (v, d)) : a ≤ v ∧ v ≤ b ∧ d = draws.tail := by
  unfold randintN at h
  split at h
  · cases h
    have := Nat.mod_lt (draws.headD 0) (by omega : 0 < b - a + 1)
    exact ⟨by omega, by omega, rfl⟩
  · cases h

theorem randintI_spec {a b : Int} {draws : List Nat} {v : Int} {d : List Nat}
    (h : randintI a b draws = .ok (v, d)) : a ≤ v ∧ v ≤ b := by
  unfold randintI at h
  split at h
  · cases h
    have h1 := Int.emod_nonneg ((draws.headD 0 : Nat) : Int) (by omega : b - a + 1 ≠ 0)
    have h2 := Int.emod_lt_of_pos ((draws.headD 0 : Nat) : Int) (by omega : 0 < b - a + 1)
    exact ⟨by omega, by omega⟩
  · cases h

theorem choiceN_spec {seq draws : List Nat} {v : Nat} {d : List Nat} (h : choiceN seq draws = .ok (v, d)) :
    v ∈ seq := by
  unfold choiceN at h
  cases seq with
  | nil => cases h
  | cons a t =>
    simp only at h
    cases h
    have hlt : draws.headD 0 % (a :: t).length < (a :: t).length := Nat.mod_lt _ (by simp)
    simp only [List.getD_eq_getElem?_getD, List.getElem?_eq_getElem hlt, Option.getD_some]
    exact List.getElem_mem _

theorem choiceN_support (seq : List Nat) (x : Nat) (hx : x ∈ seq) (ds : List Nat) :
    ∃ d, choiceN seq (d :: ds) = .ok (x, ds) := by
  obtain ⟨i, hi, rfl⟩ := List.mem_iff_getElem.1 hx
  refine ⟨i, ?_⟩
  unfold choiceN
  cases seq with
  | nil => simp at hi
  | cons a t =>
    simp only [List.headD_cons, List.tail_cons, Nat.mod_eq_of_lt hi]
    simp [List.getD_eq_getElem?_getD, List.getElem?_eq_getElem hi]

theorem chooseMany_spec : ∀ (k : Nat) (avail draws ms d : List Nat), avail.Nodup →
    chooseMany k avail draws = .ok (ms, d) → ms.length = k ∧ ms.Nodup ∧ ∀ m ∈ ms, m ∈ avail
  | 0, _, _, _, _, _, h => by
    simp only [chooseMany] at h; cases h; simp
  | k + 1, avail, draws, ms, d, hnd, h => by
    simp only [chooseMany] at h
    split at h
    · cases h
    next m d1 hc =>
    split at h
    · cases h
    next ms' d2 hr =>
    cases h
    have hm := choiceN_spec hc
    obtain ⟨h1, h2, h3⟩ := chooseMany_spec k (avail.erase m) d1 ms' d (hnd.erase m) hr
    refine ⟨by simp [h1], List.nodup_cons.2 ⟨fun hmem => ?_, h2⟩,
      List.forall_mem_cons.2 ⟨hm, fun x hx => List.mem_of_mem_erase (h3 x hx)⟩⟩
    exact ((List.Nodup.mem_erase_iff hnd).1 (h3 m hmem)).1 rfl

/-- shape of one generated operation -/
structure OpShape (p : GenParams) (nm : Nat) (op : Op) : Prop where
  dur : p.durRange.1 ≤ op.dur ∧ op.dur ≤ p.durRange.2
  lt : ∀ m ∈ op.machines, m < nm
  nodup : op.machines.Nodup
  count : if p.mpo.2 > 1 then p.mpo.1 ≤ op.machines.length ∧ op.machines.length ≤ p.mpo.2 else op.machines.length = 1

theorem genOp_spec (p : GenParams) (nm : Nat) (avail draws : List Nat) (op : Op) (avail' d : List Nat)
    (hav : ∀ m ∈ avail, m < nm) (hnd : avail.Nodup) (h : genOp p avail draws = .ok (op, avail', d)) :
    OpShape p nm op ∧ (∀ m ∈ avail', m < nm) ∧ avail'.Nodup ∧
    (p.mpo.2 ≤ 1 → ∃ m, op.machines = [m] ∧ m ∈ avail ∧ avail' = if p.allowRecirc then avail else avail.erase m) := by
  unfold genOp at h
  split at h
  · cases h
  next dur d1 hd =>
  have hdur := randintI_spec hd
  by_cases hk : p.mpo.2 > 1
  · simp only [hk, ↓reduceIte] at h
    split at h
    · cases h
    next k d2 hr =>
    split at h
    · cases h
    next ms d3 hc =>
    cases h
    obtain ⟨hk1, hk2, _⟩ := randintN_spec hr
    obtain ⟨h1, h2, h3⟩ := chooseMany_spec k avail d2 ms d hnd hc
    exact ⟨⟨hdur, fun m hm => hav m (h3 m hm), h2, by simp [hk, h1, hk1, hk2]⟩, hav, hnd, fun hle => by omega⟩
  · simp only [hk, ↓reduceIte] at h
    split at h
    · cases h
    next m d2 hc =>
    cases h
    have hm := choiceN_spec hc
    refine ⟨⟨hdur, by intro x hx; simp only [List.mem_singleton] at hx; subst hx; exact hav _ hm, by simp,
      by simp [hk]⟩, ?_, ?_, fun _ => ⟨m, rfl, hm, rfl⟩⟩
    · intro x hx
      split at hx
      · exact hav x hx
      · exact hav x (List.mem_of_mem_erase hx)
    · split
      · exact hnd
      · exact hnd.erase m

theorem genJob_spec (p : GenParams) (nm : Nat) : ∀ (n : Nat) (avail draws : List Nat) (ops : List Op) (d : List Nat),
    (∀ m ∈ avail, m < nm) → avail.Nodup → genJob p n avail draws = .ok (ops, d) →
    ops.length = n ∧ (∀ op ∈ ops, OpShape p nm op) ∧
    (p.mpo.2 ≤ 1 → p.allowRecirc = false →
      ∃ rest, avail.Perm ((ops.map fun op => op.machines.headD 0) ++ rest))
  | 0, avail, draws, ops, d, _, _, h => by
    simp only [genJob] at h; cases h
    exact ⟨rfl, by simp, fun _ _ => ⟨avail, by simp⟩⟩
  | n + 1, avail, draws, ops, d, hav, hnd, h => by
    simp only [genJob] at h
    split at h
    · cases h
    next op avail' d1 ho =>
    split at h
    · cases h
    next ops' d2 hj =>
    cases h
    obtain ⟨hs, hav', hnd', hsingle⟩ := genOp_spec p nm avail draws op avail' d1 hav hnd ho
    obtain ⟨h1, h2, h3⟩ := genJob_spec p nm n avail' d1 ops' d hav' hnd' hj
    refine ⟨by simp [h1], List.forall_mem_cons.2 ⟨hs, h2⟩, fun hle hrc => ?_⟩
    obtain ⟨m, hm1, hm2, hm3⟩ := hsingle hle
    obtain ⟨rest, hrest⟩ := h3 hle hrc
    refine ⟨rest, ?_⟩
    simp only [List.map_cons, hm1, List.headD_cons, List.cons_append]
    rw [hm3, hrc] at hrest
    simp only [Bool.false_eq_true, ↓reduceIte] at hrest
    exact (List.perm_cons_erase hm2).trans (List.Perm.cons m hrest)

theorem genJobs_spec (p : GenParams) (nm : Nat) : ∀ (n : Nat) (draws : List Nat) (jobs : List (List Op)) (d : List Nat),
    genJobs p nm n draws = .ok (jobs, d) →
    jobs.length = n ∧ ∀ job ∈ jobs, job.length = nm ∧ (∀ op ∈ job, OpShape p nm op) ∧
      (p.mpo.2 ≤ 1 → p.allowRecirc = false → (job.map fun op => op.machines.headD 0).Perm (List.range nm))
  | 0, draws, jobs, d, h => by simp only [genJobs] at h; cases h; simp
  | n + 1, draws, jobs, d, h => by
    simp only [genJobs] at h
    split at h
    · cases h
    next job d1 hj =>
    split at h
    · cases h
    next jobs' d2 hr =>
    cases h
    obtain ⟨h1, h2, h3⟩ := genJob_spec p nm nm (List.range nm) draws job d1
      (by intro m hm; exact List.mem_range.1 hm) List.nodup_range hj
    obtain ⟨g1, g2⟩ := genJobs_spec p nm n d1 jobs' d hr
    refine ⟨by simp [g1], List.forall_mem_cons.2 ⟨⟨h1, h2, fun hle hrc => ?_⟩, g2⟩⟩
    obtain ⟨rest, hrest⟩ := h3 hle hrc
    have hlen := hrest.length_eq
    simp only [List.length_range, List.length_append, List.length_map, h1] at hlen
    have : rest = [] := List.eq_nil_of_length_eq_zero (by omega)
    subst this
    simpa using hrest.symm

/-- **C19 (shape).** Whatever the random stream, every instance the generator produces has a job count within
the requested range; all jobs have the same number `M` of operations, with `M` within the requested machine
range; every machine id is below `M`; durations lie within range; each operation has the requested number of
distinct eligible machines; when fewer jobs than machines are disallowed there are at least as many jobs as
machines; and without recirculation and with single-machine operations each job visits each of the `M`
machines exactly once. -/
theorem C19_shape (p : GenParams) (draws : List Nat) (I : Instance) (nm : Nat) (d : List Nat)
    (h : generate p draws = .ok (I, nm, d)) :
    p.jobsRange.1 ≤ I.length ∧ I.length ≤ p.jobsRange.2 ∧
    p.machinesRange.1 ≤ nm ∧ nm ≤ p.machinesRange.2 ∧
    (p.allowLess = false → nm ≤ I.length) ∧
    ∀ job ∈ I, job.length = nm ∧ (∀ op ∈ job, OpShape p nm op) ∧
      (p.mpo.2 ≤ 1 → p.allowRecirc = false → (job.map fun op => op.machines.headD 0).Perm (List.range nm)) := by
  unfold generate at h
  split at h
  · cases h
  next nj d1 hj =>
  simp only at h
  split at h
  · cases h
  next nm' d2 hm =>
  split at h
  · cases h
  next jobs d3 hg =>
  cases h
  obtain ⟨hj1, hj2, _⟩ := randintN_spec hj
  obtain ⟨hm1, hm2, _⟩ := randintN_spec hm
  obtain ⟨g1, g2⟩ := genJobs_spec p nm nj d2 I d hg
  refine ⟨by omega, by omega, hm1, ?_, ?_, g2⟩
  · split at hm2
    · exact hm2
    · omega
  · intro hal
    simp only [hal, Bool.false_eq_true, ↓reduceIte] at hm2
    omega

/-- **C19 (support).** Every machine can be drawn: `choice` on the full list `range M` (the list the machine choosers
start from) can return any of the `M` machines. -/
theorem C19_support (nm : Nat) (m : Nat) (hm : m < nm) (ds : List Nat) :
    ∃ d, choiceN (List.range nm) (d :: ds) = .ok (m, ds) :=
  choiceN_support _ m (List.mem_range.2 hm) ds

theorem GenState.next_ok {p : GenParams} {g g' : GenState} {I : Instance} {n : Nat} (h : g.next p = .ok (I, n, g')) :
    ∃ nm d, generate p g.draws = .ok (I, nm, d) ∧ n = g.counter + 1 ∧
      g' = { g with draws := d, counter := g.counter + 1 } := by
  unfold GenState.next at h
  split at h
  · cases h
  next I' nm d hg => cases h; exact ⟨nm, d, hg, rfl, rfl⟩

theorem iterate_spec (p : GenParams) : ∀ (n : Nat) (g : GenState) (l : List (Instance × Nat)) (g' : GenState),
    iterate p n g = .ok (l, g') →
    l.length = n ∧ l.map (·.2) = (List.range n).map (fun i => g.counter + 1 + i) ∧ g'.counter = g.counter + n
  | 0, g, l, g', h => by simp only [iterate] at h; cases h; simp
  | n + 1, g, l, g', h => by
    simp only [iterate] at h
    cases hn : g.next p with
    | error e => simp [hn] at h
    | ok r =>
      obtain ⟨I, name, g1⟩ := r
      simp only [hn] at h
      cases hr : iterate p n g1 with
      | error e => simp [hr] at h
      | ok r2 =>
        obtain ⟨rest, g2⟩ := r2
        simp only [hr] at h
        cases h
        obtain ⟨h1, h2, h3⟩ := iterate_spec p n g1 rest g' hr
        have hname : name = g.counter + 1 ∧ g1.counter = g.counter + 1 := by
          obtain ⟨_, _, _, rfl, rfl⟩ := GenState.next_ok hn
          exact ⟨rfl, rfl⟩
        refine ⟨by simp [h1], ?_, by omega⟩
        simp only [List.map_cons, h2, hname.1, hname.2]
        rw [List.range_succ_eq_map]
        simp only [List.map_cons, List.map_map, Nat.add_zero]
        congr 1
        apply List.map_congr_left
        intro i _
        simp only [Function.comp_apply]; omega

theorem iterate_name {p : GenParams} {n : Nat} {g g' : GenState} {l : List (Instance × Nat)}
    (h : iterate p n g = .ok (l, g')) {x : Instance × Nat} (hx : x ∈ l) : g.counter < x.2 ∧ x.2 ≤ g.counter + n := by
  have : x.2 ∈ l.map (·.2) := List.mem_map.2 ⟨x, hx, rfl⟩
  rw [(iterate_spec p n g l g' h).2.1] at this
  obtain ⟨i, hi, hxi⟩ := List.mem_map.1 this
  have := List.mem_range.1 hi
  omega

/-- **C19 (names and iteration).** Iterating a generator with iteration limit `n` yields exactly `n` instances whose
names carry consecutive fresh counters — never reused by that generator, also across several iterations since the
counter only grows. -/
theorem C19_names_and_length (p : GenParams) (n : Nat) (g : GenState) (l : List (Instance × Nat)) (g' : GenState)
    (h : iterate p n g = .ok (l, g')) :
    l.length = n ∧ (l.map (·.2)).Nodup ∧ (∀ x ∈ l, g.counter < x.2) ∧ g'.counter = g.counter + n := by
  obtain ⟨h1, h2, h3⟩ := iterate_spec p n g l g' h
  refine ⟨h1, ?_, fun x hx => (iterate_name h hx).1, h3⟩
  rw [h2]
  exact List.Pairwise.map _ (by intro a b hab heq; omega) List.nodup_range

/-- **C19 (names across iterations).** Two successive iterations of one generator (the second starting from the state
the first left) never share a name: the counter is not reset by `__iter__`. -/
theorem C19_names_across_passes (p : GenParams) (n1 n2 : Nat) (g g1 g2 : GenState) (l1 l2 : List (Instance × Nat))
    (h1 : iterate p n1 g = .ok (l1, g1)) (h2 : iterate p n2 g1 = .ok (l2, g2)) :
    ∀ x ∈ l1, ∀ y ∈ l2, x.2 ≠ y.2 := by
  obtain ⟨_, _, hc1⟩ := iterate_spec p n1 g l1 g1 h1
  intro x hx y hy
  have := (iterate_name h1 hx).2
  have := (iterate_name h2 hy).1
  omega

/-- **C19 (same seed, same sequence).** The sequence a generator produces is a function of its parameters and its
own stream only: two generator objects with equal parameters and equal streams produce identical sequences,
however their construction and use are interleaved — each owns its stream. -/
theorem C19_deterministic (p : GenParams) (n : Nat) (g1 g2 : GenState) (h : g1.draws = g2.draws)
    (hc : g1.counter = g2.counter) :
    ((iterate p n g1).map (fun r => r.1)).mapError (fun e => (e.1, e.2.draws, e.2.counter)) =
      ((iterate p n g2).map (fun r => r.1)).mapError (fun e => (e.1, e.2.draws, e.2.counter)) := by
  induction n generalizing g1 g2 with
  | zero => rfl
  | succ n ih =>
    simp only [iterate, GenState.next, h, hc]
    cases generate p g2.draws with
    | error e => rfl
    | ok r =>
      obtain ⟨I, nm, d⟩ := r
      simp only
      have ih' := ih { g1 with draws := d, counter := g2.counter + 1 } { g2 with draws := d, counter := g2.counter + 1 }
        rfl rfl
      -- the two passes continue from states with the same stream and counter: both fail alike or both go on alike
      cases h1 : iterate p n { g1 with draws := d, counter := g2.counter + 1 } <;>
        cases h2 : iterate p n { g2 with draws := d, counter := g2.counter + 1 } <;> rw [h1, h2] at ih'
      · exact ih'
      · cases ih'
      · cases ih'
      · exact congrArg (Except.map ((I, g2.counter + 1) :: ·)) ih'
/-! non-vacuity -/
example : (generate { jobsRange := (2, 3), machinesRange := (2, 4), durRange := (1, 9) } [5, 3, 7, 1, 2, 9, 0, 4, 4, 1, 3, 3, 8]).toOption.map
    (fun r => (r.1.length, r.2.1)) = some (3, 2) := by decide +kernel

end JS
