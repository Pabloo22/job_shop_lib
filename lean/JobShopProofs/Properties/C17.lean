import JobShopModel.Features
import JobShopProofs.Properties.C16
/-!
# C17 — the residual graph hides only the decided and everything done

Graph level: `GInv` (a removed node has no outgoing edge and no edge points to a removed or non-existent
node) holds for every graph the four builders produce and is preserved by `remove_node` with its
isolated-node sweep and by every update of the residual graph updater; hence after every history no
remaining edge touches a removed node, the `removed_nodes` mask agrees with the adjacency structure, and
removals are permanent within an episode.  Of the clauses on which nodes get removed, the one proved here is that an
update removes the node of every completed operation (`C17_completed_removed`); that no unscheduled operation's node
goes, and a machine / job node only when all its operations are scheduled, is `C17_world`; that all nodes are gone at
the end is `C17_complete_all_removed`.
-/
namespace JS

/-- **C17 (built graphs are well formed).** Every graph a builder produces satisfies `GInv` (with no node removed). -/
theorem C17_built_inv (b : Builder) (I : Instance) : GInv (build b I) :=
  (stage_build b I).inv

theorem getD_map {α β} (l : List α) (f : α → β) (k : Nat) (d : α) (d' : β) (h : k < l.length) :
    (l.map f).getD k d' = f (l.getD k d) := by
  simp [List.getD_eq_getElem?_getD, List.getElem?_eq_getElem h]

theorem ginv_dropNode {g : Graph} (h : GInv g) (u : Nat) (hu : u < g.nodes.length) : GInv (g.dropNode u) := by
  have hul : u < g.adj.length := by rw [h.lenA]; exact hu
  have hur : u < g.removed.length := by rw [h.lenR]; exact hu
  have hadj : ∀ k, k < g.nodes.length → (g.dropNode u).adj.getD k [] =
      if k = u then [] else (g.adj.getD k []).filter (·.1 != u) := by
    intro k hk
    simp only [Graph.dropNode]
    rw [getD_map _ _ k [] [] (by simp [h.lenA]; exact hk), getD_set_eq _ _ _ _ hul]
    by_cases hku : k = u <;> simp [hku]
  have hrem : ∀ k, (g.dropNode u).removed.getD k true = if k = u then true else g.removed.getD k true := by
    intro k; simp only [Graph.dropNode]; exact getD_set_eq _ _ _ _ hur k
  refine ⟨by simp [Graph.dropNode, h.lenA], by simp [Graph.dropNode, h.lenR], ?_, ?_⟩
  · intro k hk hr
    have hk' : k < g.nodes.length := hk
    rw [hadj k hk']
    rw [hrem] at hr
    by_cases hku : k = u
    · simp [hku]
    · simp only [hku, ↓reduceIte] at hr ⊢
      rw [h.noOut k hk' hr]; rfl
  · intro w e he
    by_cases hw : w < g.nodes.length
    · rw [hadj w hw] at he
      by_cases hwu : w = u
      · simp [hwu] at he
      · simp only [hwu, ↓reduceIte, List.mem_filter, bne_iff_ne, ne_eq] at he
        have := present_iff_lt_and.1 (h.target w e he.1)
        rw [present_iff_lt_and, hrem, if_neg he.2]
        exact this
    · rw [getD_nil_of_le _ w (by simp [Graph.dropNode, h.lenA]; omega)] at he
      cases he

theorem dropNode_nodes (g : Graph) (u : Nat) : (g.dropNode u).nodes = g.nodes := rfl

theorem ginv_removeNode {g : Graph} (h : GInv g) (u : Nat) (hu : u < g.nodes.length) : GInv (g.removeNode u) := by
  unfold Graph.removeNode
  -- along the sweep the node list stays, so every swept node is a node of the graph
  refine (foldl_pres (P := fun g' => GInv g' ∧ g'.nodes.length = g.nodes.length) _ _ _ ?_
    ⟨ginv_dropNode h u hu, rfl⟩).1
  intro g' hg' v hv
  exact ⟨ginv_dropNode hg'.1 v (by rw [hg'.2]; exact List.mem_range.1 (List.mem_filter.1 hv).1), hg'.2⟩

/-- **C17 (no dangling edges).** In a graph satisfying `GInv` — every built graph, and every graph obtained from one
by any number of `remove_node` calls — no remaining edge touches a removed node. -/
theorem C17_no_dangling_edges {g : Graph} (h : GInv g) : ∀ e ∈ g.edges, g.present e.1 = true ∧ g.present e.2.1 = true := by
  intro e he
  obtain ⟨_, hp, hm⟩ := (mem_edges_iff g e.1 e.2.1 e.2.2).1 he
  exact ⟨hp, h.target e.1 _ hm⟩

theorem dropNode_removed_mono (g : Graph) (u k : Nat) (h : g.removed.getD k true = true) :
    (g.dropNode u).removed.getD k true = true := by
  simp only [Graph.dropNode, List.getD_eq_getElem?_getD, List.getElem?_set] at h ⊢
  split
  · split <;> simp_all
  · exact h

/-- **C17 (removals are permanent).** `remove_node` never un-removes a node, and it does remove its argument. -/
theorem C17_removed_monotone (g : Graph) (u : Nat) (hu : u < g.removed.length) :
    (∀ k, g.removed.getD k true = true → (g.removeNode u).removed.getD k true = true) ∧
    (g.removeNode u).removed.getD u true = true := by
  have hfold : ∀ (l : List Nat) (g' : Graph) (k : Nat), g'.removed.getD k true = true →
      (l.foldl (fun g v => g.dropNode v) g').removed.getD k true = true :=
    fun l g' k => foldl_pres _ l g' (fun g' hg' v _ => dropNode_removed_mono g' v k hg')
  constructor
  · intro k hk
    exact hfold _ _ k (dropNode_removed_mono g u k hk)
  · apply hfold
    simp [Graph.dropNode, List.getD_eq_getElem?_getD, hu]

/-- **C17 (every update keeps the graph consistent).** -/
theorem C17_removeNode_spec {g : Graph} (h : GInv g) (u : Nat) (hu : u < g.nodes.length) :
    GInv (g.removeNode u) ∧ (g.removeNode u).nodes = g.nodes :=
  ⟨ginv_removeNode h u hu, foldl_nodes (fun g v => g.dropNode v) (fun _ _ => rfl) _ (g.dropNode u)⟩

theorem removeIf_cond {g : Graph} {nid : Nat} {cond : Bool} (hc : (cond && !(g.removed.getD nid true)) = true) :
    cond = true ∧ nid < g.removed.length := by
  simp only [Bool.and_eq_true, Bool.not_eq_true'] at hc
  refine ⟨hc.1, Classical.byContradiction fun hn => ?_⟩
  have : g.removed[nid]? = none := List.getElem?_eq_none (by omega)
  simp [List.getD_eq_getElem?_getD, this] at hc

theorem ginv_removeIf {g : Graph} (hg : GInv g) (nid : Nat) (cond : Bool) : GInv (removeIf g nid cond) := by
  unfold removeIf
  split
  · rename_i hc
    exact ginv_removeNode hg nid (by rw [← hg.lenR]; exact (removeIf_cond hc).2)
  · exact hg

theorem removeIf_mono (g : Graph) (nid : Nat) (cond : Bool) (k : Nat) (h : g.removed.getD k true = true) :
    (removeIf g nid cond).removed.getD k true = true := by
  unfold removeIf
  split
  · rename_i hc
    exact (C17_removed_monotone g nid (removeIf_cond hc).2).1 k h
  · exact h

theorem removeIf_sets (g : Graph) (nid : Nat) : (removeIf g nid true).removed.getD nid true = true := by
  unfold removeIf
  split
  · rename_i hc
    exact (C17_removed_monotone g nid (removeIf_cond hc).2).2
  · rename_i hc
    cases h : g.removed.getD nid true with
    | true => rfl
    | false => exact absurd (by rw [h]; rfl) hc

/-! What every conditional removal keeps, each stage of the updater keeps, and so does an update. -/

theorem foldl_removeIf_pres {P : Graph → Prop} (hP : ∀ g nid cond, P g → P (removeIf g nid cond)) {α}
    (f : Graph → α → Nat) (cnd : Graph → α → Bool) (L : List α) (g : Graph) (h : P g) :
    P (L.foldl (fun g a => removeIf g (f g a) (cnd g a)) g) :=
  foldl_pres _ L g (fun g hg _ _ => hP g _ _ hg) h

/-- in a run of conditional removals (all keeping `Q`) an entry whose condition holds has its node removed when its turn comes,
and every later removal only removes more -/
theorem foldl_removeIf_removed {α} (f : Graph → α → Nat) (cnd : Graph → α → Bool) {Q : Graph → Prop}
    (hQ : ∀ g nid cond, Q g → Q (removeIf g nid cond)) (n : Nat) (a : α) (ha : ∀ g, Q g → f g a = n ∧ cnd g a = true) :
    ∀ (L : List α) (g : Graph), Q g → a ∈ L → (L.foldl (fun g x => removeIf g (f g x) (cnd g x)) g).removed.getD n true = true
  | [], _, _, hm => nomatch hm
  | x :: t, g, hg, hm => by
    rw [List.foldl_cons]
    rcases List.mem_cons.1 hm with rfl | hm
    · rw [(ha g hg).1, (ha g hg).2]
      exact foldl_removeIf_pres (fun g nid cond => removeIf_mono g nid cond n) f cnd t _ (removeIf_sets g n)
    · exact foldl_removeIf_removed f cnd hQ n a ha t _ (hQ _ _ _ hg) hm

theorem removeCompletedOps_pres {P : Graph → Prop} (hP : ∀ g nid cond, P g → P (removeIf g nid cond)) (I : Instance)
    (g : Graph) (refs : List OpRef) (h : P g) : P (removeCompletedOps I g refs) :=
  foldl_removeIf_pres hP (fun _ r => opId I r) (fun _ _ => true) refs g h

theorem removeFlagged_pres {P : Graph → Prop} (hP : ∀ g nid cond, P g → P (removeIf g nid cond)) (g : Graph)
    (flags : List Int) (kind : Nat → NodeKind) (h : P g) : P (removeFlagged g flags kind) :=
  foldl_removeIf_pres hP (fun g (fm : Int × Nat) => nodeIdOf g (kind fm.2)) (fun _ fm => fm.1 == 1) _ g h

/-- the observer a residual graph updater reads its completion flags from: the first of its `parts` -/
def flagSource (heap : List FObs) (o : FObs) : FObs :=
  match o.parts.head? with | some i => heap.getD i default | none => default

theorem flagSource_eq {heap : List FObs} {o : FObs} {i : Nat} {ic : FObs} (hi : o.parts.head? = some i)
    (hic : heap[i]? = some ic) : flagSource heap o = ic := by
  simp [flagSource, hi, List.getD_eq_getElem?_getD, hic]

theorem flagStage_pres {P : Graph → Prop} (b : Bool) (has : Graph → Bool) (g : Graph) (flags : List Int)
    (kind : Nat → NodeKind) (hP : b = true → P g → P (removeFlagged g flags kind)) (h : P g) :
    P (if (b && has g) = true then removeFlagged g flags kind else g) := by
  split
  · rename_i hc
    exact hP (Bool.and_eq_true_iff.1 hc).1 h
  · exact h

theorem residualUpdate_pres_of_completedOps {P : Graph → Prop} (hP : ∀ g nid cond, P g → P (removeIf g nid cond))
    (c : Cfg) (s : State) (heap : List FObs) (o : FObs) (h : P (removeCompletedOps c.I o.graph (completedPure c s))) :
    P (residualUpdate c s heap o) :=
  flagStage_pres _ _ _ _ _ (fun _ => removeFlagged_pres hP _ _ _)
    (flagStage_pres _ _ _ _ _ (fun _ => removeFlagged_pres hP _ _ _) h)

theorem residualUpdate_pres (P : Graph → Prop) (hP : ∀ g nid cond, P g → P (removeIf g nid cond))
    (c : Cfg) (s : State) (heap : List FObs) (o : FObs) (h : P o.graph) : P (residualUpdate c s heap o) :=
  residualUpdate_pres_of_completedOps hP c s heap o (removeCompletedOps_pres hP _ _ _ h)

theorem residualUpdate_inv (c : Cfg) (s : State) (heap : List FObs) (o : FObs) (h : GInv o.graph) :
    GInv (residualUpdate c s heap o) :=
  residualUpdate_pres GInv (fun _ nid cond hg => ginv_removeIf hg nid cond) c s heap o h

/-- **C17 (completed operations are removed).** After every update of the residual graph updater, the node of every
completed operation is removed (and stays removed: `C17_removed_monotone`). -/
theorem C17_completed_removed (c : Cfg) (s : State) (heap : List FObs) (o : FObs) (r : OpRef)
    (hr : r ∈ completedPure c s) :
    (residualUpdate c s heap o).removed.getD (opId c.I r) true = true := by
  have hP : ∀ g nid cond, g.removed.getD (opId c.I r) true = true →
      (removeIf g nid cond).removed.getD (opId c.I r) true = true := fun g nid cond => removeIf_mono g nid cond _
  -- removed in the first stage, and the later stages only remove more
  exact residualUpdate_pres_of_completedOps hP c s heap o
    (foldl_removeIf_removed (fun _ x => opId c.I x) (fun _ _ => true) (Q := fun _ => True) (fun _ _ _ => id) _ r
      (fun _ _ => ⟨rfl, rfl⟩) _ _ trivial hr)

/-! non-vacuity -/
set_option maxRecDepth 100000 in
example :
    let c : Cfg := { I := posInstance }
    let w := FWorld.run c [.residual .completeAgentTask true true, .disp 0 0 (some 0), .disp 1 0 none, .disp 0 1 none,
      .disp 1 1 (some 0)]
    (w.heap[3]?.map fun o => o.graph.removed.all id) = some true := by decide +kernel

end JS
