import JobShopProofs.Abstract.Final
import JobShopProofs.Properties.C06
/-!
# C08 — pruning dominated operations never loses the optimum

`FHist I h s`: `h` is a dispatch history (list of `(job, position, machine)`) all of whose requests are
accepted *and* dispatch an operation that survives `filter_dominated_operations` applied to the raw ready
list of the state it is dispatched in; `s` is the resulting state.  `AHist` is the same without the
filter condition.  The theorems: for every instance with positive durations (flexible or not), for every
bound `B ≥ 0`, a complete filtered history with makespan `≤ B` exists iff a complete unfiltered one does iff a
feasible complete assignment `T` of machines and start times with all completions `≤ B` exists.  Hence
the minimum over the pruned search tree, over the full tree, and the true optimum coincide.
The exchange argument itself (`JS.C08_pruned_reaches`, abstract level) is in `Abstract/`.
-/
namespace JS

inductive FHist (I : Instance) : List (Nat × Nat × Nat) → State → Prop
  | nil : FHist I [] (init I)
  | snoc {h s s' j p m} : FHist I h s → (j, p) ∈ filterDominated I s (rawReady I s) →
      dispatch I s j p m = .ok s' → FHist I (h ++ [(j, p, m)]) s'

inductive AHist (I : Instance) : List (Nat × Nat × Nat) → State → Prop
  | nil : AHist I [] (init I)
  | snoc {h s s' j p m} : AHist I h s → dispatch I s j p m = .ok s' → AHist I (h ++ [(j, p, m)]) s'

theorem FHist.toAHist {I h s} (hf : FHist I h s) : AHist I h s := by
  induction hf with
  | nil => exact .nil
  | snoc _ _ hd ih => exact .snoc ih hd

theorem AHist.replay_eq {I h s} (ha : AHist I h s) : s = replay I (init I) h := by
  induction ha with
  | nil => rfl
  | snoc _ hd ih =>
    rw [replay_append, ← ih]
    simp [replay, hd]

theorem AHist.cinv {I : Instance} (hv : Valid I) {h s} (ha : AHist I h s) : CInv I s := by
  induction ha with
  | nil => exact cinv_init I
  | snoc _ hd ih =>
    obtain ⟨op, hsp⟩ := dispatch_ok hd
    exact cinv_dispatch (hv _ _ op hsp.hop).2.2 ih hsp

theorem nonDom_iff_filter {I : Instance} (hv : Valid I) (hp : PosDurI I) {s : State} {a : AState} (hr : Rel s a)
    (j p : Nat) (hready : a.idx j = p) :
    NonDom I a j p ↔ (j, p) ∈ filterDominated I s (rawReady I s) := by
  have hcrit := (C07_criterion_dominated I s (rawReady I s) (posDurL_of_posDurI hp _)).2 (j, p)
  rw [hcrit]
  unfold NonDom NotDominated
  constructor
  · rintro ⟨op, hop, m, hm, hall⟩
    have hj : j < I.length := getOp_job_lt I j p op hop
    refine ⟨(mem_rawReady I s (j, p)).2 ⟨hj, by simp only; rw [← hr.idx, hready],
      getD_length_of_getOp.1 (by simp [hop])⟩, op, hop, m, hm, ?_⟩
    intro r' hr' op' hop' hm'
    obtain ⟨_, h2, _⟩ := (mem_rawReady I s r').1 hr'
    have := hall r'.1 op' (by rw [hr.idx, ← h2]; exact hop') hm'
    rw [rel_startTime hr, rel_startTime hr]; exact this
  · rintro ⟨_, op, hop, m, hm, hall⟩
    refine ⟨op, hop, m, hm, ?_⟩
    intro j' op' hop' hm'
    have hj' : j' < I.length := getOp_job_lt I j' _ op' hop'
    have hmem : (j', a.idx j') ∈ rawReady I s :=
      (mem_rawReady I s (j', a.idx j')).2 ⟨hj', by simp only; rw [hr.idx],
        getD_length_of_getOp.1 (by simp [hop'])⟩
    have := hall (j', a.idx j') hmem op' hop' hm'
    rw [rel_startTime hr, rel_startTime hr] at this; exact this

theorem freach_concrete {I : Instance} (hv : Valid I) (hp : PosDurI I) {a : AState} (hf : FReach I a) :
    ∃ h s, FHist I h s ∧ Rel s a := by
  induction hf with
  | init => exact ⟨[], init I, .nil, rel_init I⟩
  | @step a' j p m op _ hready hop hnd hm ih =>
    obtain ⟨h, s, hh, hr⟩ := ih
    have hc := hh.toAHist.cinv hv
    obtain ⟨s', hs'⟩ := dispatch_accepts hc hop (by rw [← hr.idx]; exact hready.1) hm
    obtain ⟨op', hsp⟩ := dispatch_ok hs'
    have : op' = op := by have := hsp.hop; rw [hop] at this; cases this; rfl
    subst this
    exact ⟨h ++ [(j, p, m)], s', .snoc hh ((nonDom_iff_filter hv hp hr j p hready.1).1 hnd) hs',
      (rel_dispatch hc.wf hr hsp).2⟩

theorem makespan_le_of_ends {s : State} (B : Int) (h : ∀ x ∈ s.sched.flatten, x.end_ ≤ B) :
    makespan s ≤ max 0 B := by
  rcases foldl_last_attained s.sched 0 with h0 | ⟨ms, hms, l, hl, he⟩
  · unfold makespan; omega
  · have := h l (List.mem_flatten.2 ⟨ms, hms, List.mem_of_getLast? hl⟩)
    unfold makespan; omega

/-- **C08 (the pruned tree reaches every feasible assignment's makespan).** For every valid instance with
positive durations and every feasible complete assignment `T` (machines and start times, flexible or not)
whose completions are all `≤ B`, there is a dispatch history that only ever dispatches operations
surviving the dominated-operations filter, ends complete, and has makespan `≤ B`. -/
theorem C08_pruned_reaches_concrete (I : Instance) (hv : Valid I) (hp : PosDurI I) (T : Asg) (hT : FeasT I T)
    (B : Int) (hB : BoundT I T B) :
    ∃ h s, FHist I h s ∧ isComplete I s = true ∧ makespan s ≤ max 0 B := by
  obtain ⟨a, hreach, hainv, hcomp, hends⟩ := C08_pruned_reaches I hp T hT B hB
  obtain ⟨h, s, hh, hr⟩ := freach_concrete hv hp hreach
  have hc := hh.toAHist.cinv hv
  refine ⟨h, s, hh, ?_, ?_⟩
  · have hf := feasible_of_cinv hc
    simp only [isComplete, beq_iff_eq, numScheduled_eq]
    rw [complete_iff_count hf]
    intro j p hjp
    obtain ⟨op, hop⟩ := Option.isSome_iff_exists.1 hjp
    have hlt : p < a.idx j := by
      apply Classical.byContradiction; intro hn
      exact hcomp j p ⟨⟨op, hop⟩, by omega⟩
    obtain ⟨x, hx, h1, h2⟩ := hainv.idx_sched j p hlt
    exact ⟨x, hr.sched.mem_iff.1 hx, h1, h2⟩
  · exact makespan_le_of_ends B (fun x hx => hends x (hr.sched.mem_iff.2 hx))

/-- the assignment read off a schedule -/
def asgOf (s : State) : Asg :=
  { mach := fun j p => ((s.sched.flatten.find? fun x => x.job == j && x.pos == p).map (·.machine)).getD 0,
    st := fun j p => ((s.sched.flatten.find? fun x => x.job == j && x.pos == p).map (·.start)).getD 0 }

theorem pairwise_either {α} {R : α → α → Prop} : ∀ {l : List α}, l.Pairwise R → ∀ x ∈ l, ∀ y ∈ l, x ≠ y → R x y ∨ R y x
  | [], _, _, hx, _, _, _ => by simp at hx
  | a :: t, hp, x, hx, y, hy, hne => by
    rw [List.pairwise_cons] at hp
    rcases List.mem_cons.1 hx with hxa | hxt <;> rcases List.mem_cons.1 hy with hya | hyt
    · exact absurd (hxa.trans hya.symm) hne
    · left; rw [hxa]; exact hp.1 y hyt
    · right; rw [hya]; exact hp.1 x hxt
    · exact pairwise_either hp.2 x hxt y hyt hne

theorem asgOf_feasible {I : Instance} (hv : Valid I) {s : State} (hc : CInv I s) (hcomp : isComplete I s = true) :
    FeasT I (asgOf s) ∧ BoundT I (asgOf s) (makespan s) := by
  have hf := feasible_of_cinv hc
  have hC : Complete I s.sched := by
    rw [← complete_iff_count hf, ← numScheduled_eq]; simpa [isComplete] using hcomp
  obtain ⟨a, hr, ha, ha2⟩ := hc.abs
  -- the entry of each operation
  have entry : ∀ j p op, getOp I j p = some op → ∃ x ∈ s.sched.flatten, x.job = j ∧ x.pos = p ∧
      (asgOf s).mach j p = x.machine ∧ (asgOf s).st j p = x.start ∧ x.dur = op.dur := by
    intro j p op hop
    obtain ⟨x, hx, hxj, hxp⟩ := hC j p (by simp [hop])
    cases hfind : s.sched.flatten.find? (fun x => x.job == j && x.pos == p) with
    | none => exact absurd (by simp [hxj, hxp]) (List.find?_eq_none.1 hfind x hx)
    | some y =>
      have hyp := List.find?_some hfind
      simp only [Bool.and_eq_true, beq_iff_eq] at hyp
      have hym := List.mem_of_find?_eq_some hfind
      obtain ⟨op', hop', hd, _⟩ := hf.isOp y hym
      rw [hyp.1, hyp.2, hop] at hop'; cases hop'
      exact ⟨y, hym, hyp.1, hyp.2, by simp only [asgOf, hfind, Option.map_some, Option.getD_some],
        by simp only [asgOf, hfind, Option.map_some, Option.getD_some], hd⟩
  constructor
  · constructor
    · intro j p op hop
      obtain ⟨x, hx, hxj, hxp, hm, _, _⟩ := entry j p op hop
      obtain ⟨op', hop', _, hel⟩ := hf.isOp x hx
      rw [hxj, hxp, hop] at hop'; cases hop'
      rw [hm]; exact hel
    · intro j p op hop
      obtain ⟨x, hx, _, _, _, hs, _⟩ := entry j p op hop
      rw [hs]; exact hf.nonneg x hx
    · intro j p op op' hop hop'
      obtain ⟨x, hx, hxj, hxp, _, hs, hd⟩ := entry j p op hop
      obtain ⟨y, hy, hyj, hyp, _, hs', _⟩ := entry j (p+1) op' hop'
      have := hf.jobOrder x hx y hy (by rw [hxj, hyj]) (by rw [hxp, hyp]; omega)
      rw [hs, hs', ← hd]; simpa [SOp.end_] using this
    · intro j p op j' p' op' hop hop' hne hmach
      obtain ⟨x, hx, hxj, hxp, hm, hs, hd⟩ := entry j p op hop
      obtain ⟨y, hy, hyj, hyp, hm', hs', hd'⟩ := entry j' p' op' hop'
      rw [hm, hm'] at hmach
      have hxy : x ≠ y := by
        intro h; apply hne; rw [← hxj, ← hxp, ← hyj, ← hyp, h]
      obtain ⟨m, hxm⟩ := mem_flatten_getD _ x hx
      obtain ⟨m', hym⟩ := mem_flatten_getD _ y hy
      have e1 := hf.inList m x hxm
      have e2 := hf.inList m' y hym
      have : m = m' := by rw [← e1, ← e2, hmach]
      subst this
      rcases pairwise_either (hf.machOrder m) x hxm y hym hxy with h | h
      · left; rw [hs, hs', ← hd]; simpa [SOp.end_] using h
      · right; rw [hs, hs', ← hd']; simpa [SOp.end_] using h
  · intro j p op hop
    obtain ⟨x, hx, _, _, _, hs, hd⟩ := entry j p op hop
    have := cinv_end_le_makespan hc x hx
    rw [hs, ← hd]; simpa [SOp.end_] using this

/-- **C08 (min over the pruned tree = min over the full tree = OPT).** For every valid instance with positive
durations and every bound `B ≥ 0`, the following are equivalent:
(1) some complete *filtered* dispatch history has makespan `≤ B`;
(2) some complete dispatch history has makespan `≤ B`;
(3) some feasible complete assignment of machines and start times finishes everything by `B`. -/
theorem C08_min_eq (I : Instance) (hv : Valid I) (hp : PosDurI I) (B : Int) (hB : 0 ≤ B) :
    ((∃ h s, FHist I h s ∧ isComplete I s = true ∧ makespan s ≤ B) ↔
     (∃ h s, AHist I h s ∧ isComplete I s = true ∧ makespan s ≤ B)) ∧
    ((∃ h s, AHist I h s ∧ isComplete I s = true ∧ makespan s ≤ B) ↔
     (∃ T, FeasT I T ∧ BoundT I T B)) := by
  have h12 : (∃ h s, FHist I h s ∧ isComplete I s = true ∧ makespan s ≤ B) →
      (∃ h s, AHist I h s ∧ isComplete I s = true ∧ makespan s ≤ B) :=
    fun ⟨h, s, hf, hc, hm⟩ => ⟨h, s, hf.toAHist, hc, hm⟩
  have h23 : (∃ h s, AHist I h s ∧ isComplete I s = true ∧ makespan s ≤ B) → (∃ T, FeasT I T ∧ BoundT I T B) := by
    rintro ⟨h, s, ha, hc, hm⟩
    obtain ⟨hT, hBd⟩ := asgOf_feasible hv (ha.cinv hv) hc
    exact ⟨asgOf s, hT, fun j p op hop => Int.le_trans (hBd j p op hop) hm⟩
  have h31 : (∃ T, FeasT I T ∧ BoundT I T B) → (∃ h s, FHist I h s ∧ isComplete I s = true ∧ makespan s ≤ B) := by
    rintro ⟨T, hT, hBd⟩
    obtain ⟨h, s, hf, hc, hm⟩ := C08_pruned_reaches_concrete I hv hp T hT B hBd
    exact ⟨h, s, hf, hc, by omega⟩
  exact ⟨⟨h12, fun h => h31 (h23 h)⟩, ⟨h23, fun h => h12 (h31 h)⟩⟩

/-! non-vacuity: the positive-duration flexible instance of C06 has a complete filtered history -/
example : ∃ h s, FHist posInstance h s ∧ isComplete posInstance s = true ∧ makespan s ≤ 5 := by
  let r (h : List (Nat × Nat × Nat)) := replay posInstance (init posInstance) h
  have h1 : FHist posInstance ([] ++ [(0, 0, 0)]) (r [(0, 0, 0)]) := .snoc .nil (by decide +kernel) (by rfl)
  have h2 : FHist posInstance ([] ++ [(0, 0, 0)] ++ [(1, 0, 1)]) (r [(0, 0, 0), (1, 0, 1)]) :=
    .snoc h1 (by decide +kernel) (by rfl)
  have h3 : FHist posInstance ([] ++ [(0, 0, 0)] ++ [(1, 0, 1)] ++ [(0, 1, 2)]) (r [(0, 0, 0), (1, 0, 1), (0, 1, 2)]) :=
    .snoc h2 (by decide +kernel) (by rfl)
  have h4 : FHist posInstance ([] ++ [(0, 0, 0)] ++ [(1, 0, 1)] ++ [(0, 1, 2)] ++ [(1, 1, 0)])
      (r [(0, 0, 0), (1, 0, 1), (0, 1, 2), (1, 1, 0)]) := .snoc h3 (by decide +kernel) (by rfl)
  exact ⟨_, _, h4, by decide +kernel, by decide +kernel⟩

end JS
