import JobShopModel.Env
import JobShopProofs.EnvInv4
import JobShopProofs.EnvReward
import JobShopProofs.Properties.C19
/-!
# C18 — the environments honour the Gymnasium contract
-/
namespace JS

theorem Env.step_ok {e : Env} {job : Nat} {machine : Int} {obs : EObs} {r : Int} {d t : Bool} {av : List OpRef}
    (h : (e.step job machine).2 = .ok obs r d t av) :
    ∃ w', e.w.dispatch job (e.w.s.jobIdx.getD job 0) (if machine == -1 then none else some machine) = (w', true) ∧
      (e.step job machine).1 = { e with w := w' } ∧
      ({ e with w := w' } : Env).observation = some obs ∧
      r = ({ e with w := w' } : Env).lastReward ∧ d = isComplete w'.cfg.I w'.s ∧ t = false ∧
      av = availablePure w'.cfg w'.s ∧ job < e.w.cfg.I.length ∧
      e.w.s.jobIdx.getD job 0 < (e.w.cfg.I.getD job []).length := by
  rcases Env.step_cases e job machine with ⟨he, _⟩ | ⟨w', hd, h1, h2, ⟨_, he⟩ | ⟨o, ho, he⟩⟩
  · rw [he] at h; cases h
  · rw [he] at h; cases h
  · rw [he] at h ⊢
    cases h
    exact ⟨w', hd, rfl, ho, rfl, rfl, rfl, rfl, h1, h2⟩

/-- **C18 (done / truncated).** A step that does not raise reports `done` exactly when the schedule is complete and
never signals truncation. -/
theorem C18_done_truncated (e : Env) (job : Nat) (machine : Int) (obs : EObs) (r : Int) (d t : Bool) (av : List OpRef)
    (h : (e.step job machine).2 = .ok obs r d t av) :
    d = isComplete (e.step job machine).1.w.cfg.I (e.step job machine).1.w.s ∧ t = false := by
  obtain ⟨w', _, he, _, _, hd, ht, _⟩ := Env.step_ok h
  rw [he]; exact ⟨hd, ht⟩

/-- what happens to an environment after its constructor: the properties talk about environments built by `Env.make` and
then stepped and reset any number of times (`Env.runEvs`) -/
inductive EnvEv
  | step (job : Nat) (machine : Int)
  | reset
deriving Repr, DecidableEq

def Env.apply (e : Env) : EnvEv → Env
  | .step j m => (e.step j m).1
  | .reset => e.reset.1

def Env.runEvs (e : Env) (evs : List EnvEv) : Env := evs.foldl Env.apply e

/-- events of the multi environment -/
inductive MEv | reset | step (job : Nat) (machine : Int)

def MultiEnv.stepEv (m : MultiEnv) : MEv → MultiEnv
  | .reset => m.reset.1
  | .step j mm => (m.step j mm).1

def MultiEnv.run (m : MultiEnv) (evs : List MEv) : MultiEnv := evs.foldl MultiEnv.stepEv m

theorem Env.runEvs_append (e : Env) (a b : List EnvEv) : e.runEvs (a ++ b) = (e.runEvs a).runEvs b := by
  simp only [Env.runEvs, List.foldl_append]

theorem Env.runEvs_step (e : Env) (j : Nat) (m : Int) : e.runEvs [.step j m] = (e.step j m).1 := rfl

theorem Env.step_ec (e : Env) (j : Nat) (m : Int) : (e.step j m).1.ec = e.ec ∧ (e.step j m).1.space = e.space := by
  rcases Env.step_fst e j m with h | ⟨w', _, h⟩
  · rw [h]; exact ⟨rfl, rfl⟩
  · rw [h]; exact ⟨rfl, rfl⟩

theorem FWorld.dispatch_wf (w : FWorld) (j p : Nat) (m : Option Int) (h : WF w.cfg.I w.s) :
    WF w.cfg.I (w.dispatch j p m).1.s := by
  rcases w.dispatch_req j p m with ⟨_, _, e⟩ | ⟨s', x, l, hd, e⟩
  · rw [e]; exact h
  · obtain ⟨mm, op, _, _, hdd⟩ := dispatchReq_ok hd
    obtain ⟨_, hsp⟩ := dispatch_ok hdd
    rw [e, (good_foldl (fun w id => w.callUpdate x id) (fun w id => good_callUpdate w x id) l { w with s := s' }).st.2]
    exact wf_dispSpec h hsp

theorem good_constructFeats (feats : List (FKind × Option (List FT))) (w w' : FWorld) (ids : List Nat)
    (h : constructFeats w feats = some (w', ids)) : Good w w' := by
  refine constructFeats_induct (P := fun w _ w' _ => Good w w') Good.refl ?_ feats w w' ids h
  intro w k fts _ w1 _ _ _ _ hc _ ih
  have g1 := good_construct w k fts
  rw [hc] at g1
  exact g1.trans ih

theorem construct_plain_mem (w w' : FWorld) (kind : FKind) (id : Nat)
    (hk : kind = .unscheduled ∨ kind = .history ∨ kind = .makespanReward ∨ kind = .idleReward)
    (h : w.construct kind none = (w', some id)) : id ∈ w'.subs := by
  rcases construct_plain_cases w hk with ⟨_, e⟩ | ⟨_, o, _, e⟩
  · cases e.symm.trans h
  · cases e.symm.trans h
    exact List.mem_append_right _ (List.mem_singleton_self _)

theorem Env.make_good {c : Cfg} {ec : EnvCfg} {e : Env} (h : Env.make c ec = some e) : Good (FWorld.init c) e.w := by
  obtain ⟨w1, ids, w2, w3, w4, hid, h1, h2, h3, _, h4, h5, _, _⟩ := Env.make_inv h
  have g2 := good_constructComposite w1 (some ids)
  have g3 := good_constructResidual w2 (build ec.builder c.I) ec.rmMach ec.rmJob
  have g4 := good_construct w3 ec.reward none
  have g5 := good_construct w4 .history none
  rw [h2] at g2; rw [h3] at g3; rw [h4] at g4; rw [h5] at g5
  exact (good_constructFeats ec.feats _ w1 ids h1).trans (g2.trans (g3.trans (g4.trans g5)))

/-- what holds of `e`, an environment made by the constructor from `c` and `ec` (as `e0`) and then stepped and reset any
number of times: the invariant of the heap and the spaces, the constructor's configuration, spaces and reward observer id,
a duplicate-free subscriber list on which the reward observer (of the configured kind) stands, a well-shaped dispatcher
state, which satisfies `CInv` if the instance is valid -/
structure EnvReach (c : Cfg) (ec : EnvCfg) (e0 e : Env) : Prop where
  ok : EnvOK e
  cfg : e.w.cfg = c
  hec : e.ec = ec
  space : e.space = e0.space
  rew : e.rew = e0.rew
  subs : SubsOK e.w
  rewSub : e.rew ∈ e.w.subs
  rewKind : KindAt e.w e.rew ec.reward
  isRew : ec.reward = .makespanReward ∨ ec.reward = .idleReward
  wf : WF c.I e.w.s
  cinv : Valid c.I → CInv c.I e.w.s

theorem EnvReach.make {c : Cfg} {ec : EnvCfg} {e0 : Env} (hf : FeatsOK ec.feats) (h : Env.make c ec = some e0) :
    EnvReach c ec e0 e0 := by
  obtain ⟨_, _, _, w3, w4, _, _, _, _, hrk, h4, h5, _, _⟩ := Env.make_inv h
  obtain ⟨hok, hcfg, hec⟩ := Env.make_envOK hf h
  obtain ⟨_, _, hm⟩ := Env.make_heap hf h
  have g := Env.make_good h
  have g5 := good_construct w4 .history none
  rw [h5] at g5
  have hst : e0.w.s = init c.I := g.st.2
  exact ⟨hok, hcfg, hec, rfl, rfl, g.ok (subsOK_init c),
    good_mem g5 (construct_plain_mem w3 w4 ec.reward e0.rew (Or.inr (Or.inr hrk)) h4), hm.rew, hrk,
    hst ▸ wf_init c.I, fun _ => hst ▸ cinv_init c.I⟩

theorem EnvReach.apply {c : Cfg} {ec : EnvCfg} {e0 e : Env} (h : EnvReach c ec e0 e) (ev : EnvEv) :
    EnvReach c ec e0 (e.apply ev) := by
  obtain ⟨hok, hcfg, hec, hsp, hrew, hsubs, hrs, hrk, hir, hwf, hci⟩ := h
  subst hcfg
  cases ev with
  | step job machine =>
    have hok' := Env.step_envOK hok job machine
    show EnvReach _ _ _ (e.step job machine).1
    rcases Env.step_fst e job machine with he | ⟨w', hdd, he⟩
    · rw [he]; exact ⟨hok, rfl, hec, hsp, hrew, hsubs, hrs, hrk, hir, hwf, hci⟩
    · rw [he] at hok' ⊢
      generalize e.w.s.jobIdx.getD job 0 = p, (if machine == -1 then none else some machine) = mo at hdd
      obtain ⟨a, ⟨t, ht⟩, cfgeq, ci⟩ := dispatch_keeps e.w job p mo
      have ex := (dispatch_ok' hok.heap job p mo).2
      have hwf' := FWorld.dispatch_wf e.w job p mo hwf
      rw [hdd] at a ht cfgeq ci ex hwf'
      exact ⟨hok', cfgeq, hec, hsp, hrew, a hsubs, ht ▸ List.mem_append_left _ hrs, hrk.ext ex, hir, hwf',
        fun hv => ci hv (hci hv)⟩
  | reset =>
    obtain ⟨a, ⟨t, ht⟩, cfgeq, ci⟩ := reset_keeps e.w
    exact ⟨Env.reset_envOK hok, cfgeq, hec, hsp, hrew, a hsubs, ht ▸ List.mem_append_left _ hrs,
      hrk.ext (reset_ok' hok.heap).2, hir, ci.wf, fun _ => ci⟩

theorem EnvReach.run {c : Cfg} {ec : EnvCfg} {e0 e : Env} (h : EnvReach c ec e0 e) :
    ∀ evs : List EnvEv, EnvReach c ec e0 (e.runEvs evs) := by
  intro evs
  induction evs generalizing e with
  | nil => exact h
  | cons ev t ih => exact ih (h.apply ev)

theorem Env.runEvs_reach {c : Cfg} {ec : EnvCfg} {e0 : Env} (hf : FeatsOK ec.feats) (hmk : Env.make c ec = some e0)
    (evs : List EnvEv) : EnvReach c ec e0 (e0.runEvs evs) :=
  (EnvReach.make hf hmk).run evs

theorem padEnd_spec {α} (l : List α) (n : Nat) (v : α) (h : l.length ≤ n) :
    padEnd l n v = some (l ++ List.replicate (n - l.length) v) := by
  unfold padEnd; rw [if_neg (by omega)]

theorem containsObs_iff (sp : Space) (o : EObs) : sp.containsObs o = true ↔
    ((((o.removed.length = sp.nNodes ∧ o.edgeIndex.length = sp.nEdges) ∧
      (∀ uv ∈ o.edgeIndex, ((-1 ≤ uv.1 ∧ uv.1 < sp.nNodes) ∧ -1 ≤ uv.2) ∧ uv.2 < sp.nNodes)) ∧
      (o.feats.map fun tc => (tc.1, matShape tc.2)) = sp.feats) ∧
      ∀ tc ∈ o.feats, ∀ col ∈ tc.2, col.length = (tc.2.headD []).length) := by
  simp only [Space.containsObs, Bool.and_eq_true, beq_iff_eq, List.all_eq_true, decide_eq_true_eq]

theorem EnvOK.observation_spec {e : Env} (h : EnvOK e) (hpad : e.ec.usePadding = true) :
    ∃ o, e.observation = some o ∧ e.space.containsObs o = true ∧
      o.removed = e.graph.removed ∧
      o.edgeIndex = (e.graph.edges.map fun x => ((x.1 : Int), (x.2.1 : Int))) ++
        List.replicate (e.space.nEdges - e.graph.edges.length) (-1, -1) := by
  obtain ⟨ou, hou, hku, hn, hed⟩ := h.upd
  obtain ⟨hg, hsz, _⟩ := (h.heap _ ou hou).res hku
  obtain ⟨oc, hoc, hkc, hfeat⟩ := h.comp
  have hgr : e.graph = ou.graph := by unfold Env.graph; rw [getD_of_get hou]
  have hle : e.graph.edges.length ≤ e.space.nEdges := by rw [hgr, ← hed]; exact hsz.edges
  have hnodes : e.graph.nodes.length = e.space.nNodes := by rw [hgr, hsz.nodes, hn]
  have hneg : (-1 : Int) < e.space.nNodes := Int.lt_of_lt_of_le (by decide) (Int.natCast_nonneg _)
  refine ⟨{ removed := e.graph.removed,
             edgeIndex := (e.graph.edges.map fun x => ((x.1 : Int), (x.2.1 : Int))) ++
               List.replicate (e.space.nEdges - e.graph.edges.length) (-1, -1),
             feats := oc.cols }, ?_, (containsObs_iff _ _).2 ⟨⟨⟨⟨?_, ?_⟩, fun uv huv => ?_⟩, ?_⟩, ?_⟩, rfl, rfl⟩
  · unfold Env.observation
    simp only [hpad, ↓reduceIte]
    rw [padEnd_spec _ _ _ (by rw [List.length_map]; exact hle)]
    simp only [Option.map_some, List.length_map, getD_of_get hoc]
  · exact (hgr ▸ hg.lenR).trans hnodes
  · show List.length (_ ++ _) = _
    rw [List.length_append, List.length_map, List.length_replicate, Nat.add_sub_of_le hle]
  · rcases List.mem_append.1 huv with h1 | h1
    · obtain ⟨x, hx, rfl⟩ := List.mem_map.1 h1
      obtain ⟨hp1, hp2⟩ := C17_no_dangling_edges hg x (hgr ▸ hx)
      simp only [Graph.present, Bool.and_eq_true, decide_eq_true_eq] at hp1 hp2
      rw [← hgr, hnodes] at hp1 hp2
      exact ⟨⟨⟨Int.le_trans (by decide) (Int.natCast_nonneg _), Int.ofNat_lt.2 hp1.1⟩,
        Int.le_trans (by decide) (Int.natCast_nonneg _)⟩, Int.ofNat_lt.2 hp2.1⟩
    · obtain ⟨_, rfl⟩ := List.mem_replicate.1 h1
      exact ⟨⟨⟨Int.le_refl _, hneg⟩, Int.le_refl _⟩, hneg⟩
  · show oc.cols.map _ = _
    rw [hfeat]; exact ((h.heap _ oc hoc).comp hkc).shape.1
  · exact ((h.heap _ oc hoc).comp hkc).shape.2

/-- **C18 (observations, single environment).** For every instance, filter, graph builder, residual-updater options,
reward and list of feature-observer configurations for which the constructor succeeds, after any sequence of steps
(legal or rejected) and resets, with padding on: the observation exists, belongs to the declared observation space
(mask of the declared length, edge index of the declared width with entries in `[-1, nodes)`, every feature matrix
of the declared shape), its mask is the current graph's, and its edge index is the current graph's edge list followed
only by `(-1, -1)` columns. -/
theorem C18_observation_in_space (c : Cfg) (ec : EnvCfg) (e0 : Env) (hf : FeatsOK ec.feats) (hpad : ec.usePadding = true)
    (hmk : Env.make c ec = some e0) (evs : List EnvEv) :
    let e := e0.runEvs evs
    ∃ o, e.observation = some o ∧ e.space = e0.space ∧ e0.space.containsObs o = true ∧
      o.removed = e.graph.removed ∧
      o.edgeIndex = (e.graph.edges.map fun x => ((x.1 : Int), (x.2.1 : Int))) ++
        List.replicate (e0.space.nEdges - e.graph.edges.length) (-1, -1) := by
  intro e
  have hr := Env.runEvs_reach hf hmk evs
  obtain ⟨o, h1, h2, h3, h4⟩ := hr.ok.observation_spec (hr.hec ▸ hpad)
  exact ⟨o, h1, hr.space, hr.space ▸ h2, h3, hr.space ▸ h4⟩

theorem EnvReach.step_observation {c : Cfg} {ec : EnvCfg} {e0 e : Env} (h : EnvReach c ec e0 e)
    (hpad : ec.usePadding = true) (job : Nat) (machine : Int) :
    ∃ o, (e.step job machine).1.observation = some o ∧ e0.space.containsObs o = true := by
  have hr := h.apply (.step job machine)
  obtain ⟨o, h1, h2, _⟩ := hr.ok.observation_spec (hr.hec ▸ hpad)
  exact ⟨o, h1, hr.space ▸ h2⟩

/-- **C18 (a step never fails for lack of room).** An accepted dispatch always yields an observation: the residual
graph only shrinks, so it always fits the declared edge-index width. -/
theorem C18_step_returns_observation (c : Cfg) (ec : EnvCfg) (e0 : Env) (hf : FeatsOK ec.feats) (hpad : ec.usePadding = true)
    (hmk : Env.make c ec = some e0) (evs : List EnvEv) (job : Nat) (machine : Int) :
    let e := e0.runEvs evs
    (∃ obs r d t av, (e.step job machine).2 = .ok obs r d t av ∧ e0.space.containsObs obs = true) ∨
    ((e.step job machine).2 = .raised ∧ (e.step job machine).1 = e) := by
  intro e
  obtain ⟨o, ho, hin⟩ := (Env.runEvs_reach hf hmk evs).step_observation hpad job machine
  rcases Env.step_cases e job machine with ⟨h, _⟩ | ⟨w', _, _, _, ⟨h, he⟩ | ⟨obs, hobs', he⟩⟩
  · exact Or.inr ⟨congrArg Prod.snd h, congrArg Prod.fst h⟩
  · rw [he, h] at ho; cases ho
  · rw [he, hobs'] at ho; cases ho
    exact Or.inl ⟨_, _, _, _, _, congrArg Prod.snd he, hin⟩

/-- **C18 (legal decisions).** In every reachable state every legal decision — a job with operations left together
with an eligible machine id, or `-1` for a single-machine operation — belongs to the declared action space
`MultiDiscrete([J, M + 1], start=[0, -1])`. -/
theorem C18_legal_action_in_space (c : Cfg) (ec : EnvCfg) (e0 : Env) (hf : FeatsOK ec.feats)
    (hmk : Env.make c ec = some e0) (evs : List EnvEv) (job : Nat) (machine : Int)
    (hlegal : (e0.runEvs evs).legal job machine = true) :
    e0.space.containsAction job machine = true := by
  have hr := Env.runEvs_reach hf hmk evs
  have hact := hr.ok.act
  rw [hr.space] at hact
  generalize e0.runEvs evs = e at *
  unfold Env.legal at hlegal
  cases hop : getOp e.w.cfg.I job (e.w.s.jobIdx.getD job 0) with
  | none => rw [hop] at hlegal; cases hlegal
  | some op =>
    rw [hop] at hlegal
    have hjob : job < e.w.cfg.I.length := getOp_job_lt _ _ _ _ hop
    simp only [Space.containsAction, Bool.and_eq_true, decide_eq_true_eq, hact.1, hact.2]
    have hj : (0 : Int) ≤ job ∧ (job : Int) < (e.w.cfg.I.length : Int) := ⟨Int.natCast_nonneg _, Int.ofNat_lt.2 hjob⟩
    by_cases hm : (machine == -1) = true
    · rw [eq_of_beq hm]
      exact ⟨⟨hj, Int.le_refl _⟩, Int.lt_of_lt_of_le (by decide) (Int.natCast_nonneg _)⟩
    · simp only [hm, Bool.false_eq_true, ↓reduceIte, Bool.and_eq_true, decide_eq_true_eq, List.contains_iff_mem] at hlegal
      have hlt := machine_lt e.w.cfg.I job _ machine.toNat op hop hlegal.2
      exact ⟨⟨hj, Int.le_trans (by decide) hlegal.1⟩, (Int.toNat_lt hlegal.1).1 hlt⟩


theorem padEnd_some {α} {l l' : List α} {n : Nat} {v : α} (h : padEnd l n v = some l') :
    l' = l ++ List.replicate (n - l.length) v ∧ l'.length = n := by
  unfold padEnd at h
  split at h
  · cases h
  · cases h
    refine ⟨rfl, ?_⟩
    simp only [List.length_append, List.length_replicate]; omega

theorem mapM_some_map {α β γ} {f : α → Option β} {g : β → γ} {h : α → γ} (hf : ∀ a b, f a = some b → g b = h a) :
    ∀ (l : List α) (l' : List β), l.mapM f = some l' → l'.map g = l.map h
  | [], l', e => by cases e; rfl
  | a :: t, l', e => by
    rw [List.mapM_cons] at e
    obtain ⟨b, ha, e⟩ := Option.bind_eq_some_iff.1 e
    obtain ⟨t', ht, e⟩ := Option.bind_eq_some_iff.1 e
    cases e
    rw [List.map_cons, List.map_cons, hf a b ha, mapM_some_map hf t t' ht]

theorem mapM_some_of_forall {α β γ} {f : α → Option β} {g : β → γ} {h : α → γ} {Q : β → Prop} :
    ∀ (l : List α), (∀ a ∈ l, ∃ b, f a = some b ∧ g b = h a ∧ Q b) →
      ∃ l', l.mapM f = some l' ∧ l'.map g = l.map h ∧ ∀ b ∈ l', Q b
  | [], _ => ⟨[], rfl, rfl, fun _ hb => nomatch hb⟩
  | a :: t, H => by
    obtain ⟨b, hb, hg, hq⟩ := H a List.mem_cons_self
    obtain ⟨t', ht, hm, hQ⟩ := mapM_some_of_forall t fun x hx => H x (List.mem_cons_of_mem _ hx)
    exact ⟨b :: t', by rw [List.mapM_cons, hb, ht]; rfl, by rw [List.map_cons, List.map_cons, hg, hm],
      List.forall_mem_cons.2 ⟨hq, hQ⟩⟩

theorem padFeat_key {sp : Space} {a b : FT × List (List Int)} (h : padFeat sp a = some b) : b.1 = a.1 := by
  unfold padFeat at h
  split at h
  · cases h
  · obtain ⟨_, _, rfl⟩ := Option.map_eq_some_iff.1 h
    rfl

/-- **C18 (padding of the multi environment).** When padding succeeds, the mask and the edge index are the single
environment's followed only by the declared fill values (`True`, `(-1, -1)`), and they have the declared lengths. -/
theorem C18_padObs (sp : Space) (o o' : EObs) (h : padObs sp o = some o') :
    o'.removed = o.removed ++ List.replicate (sp.nNodes - o.removed.length) true ∧ o'.removed.length = sp.nNodes ∧
    o'.edgeIndex = o.edgeIndex ++ List.replicate (sp.nEdges - o.edgeIndex.length) (-1, -1) ∧
    o'.edgeIndex.length = sp.nEdges ∧ o'.feats.map (·.1) = o.feats.map (·.1) := by
  unfold padObs at h
  split at h
  next rm ei hr he =>
    obtain ⟨fs, hfs, rfl⟩ := Option.map_eq_some_iff.1 h
    obtain ⟨a1, a2⟩ := padEnd_some hr
    obtain ⟨b1, b2⟩ := padEnd_some he
    exact ⟨a1, a2, b1, b2, mapM_some_map (fun _ _ => padFeat_key) _ _ hfs⟩
  · cases h

/-- `reset()` of the multi environment, by cases: the generator refuses, or the constructor refuses the new instance, and
only the generator has moved on; or the episode environment is replaced by a new one, reset, and its observation padded -/
theorem MultiEnv.reset_cases (m : MultiEnv) :
    (∃ gs', m.reset = ({ m with gs := gs' }, none) ∧ ((∃ e, m.gs.next m.p = .error (e, gs')) ∨
      ∃ I n, m.gs.next m.p = .ok (I, n, gs') ∧
        Env.make { I := I, F := m.F } { m.ec with usePadding := m.env.ec.usePadding } = none)) ∨
    ∃ I n gs' env, m.gs.next m.p = .ok (I, n, gs') ∧
      Env.make { I := I, F := m.F } { m.ec with usePadding := m.env.ec.usePadding } = some env ∧
      m.reset = ({ m with gs := gs', env := env.reset.1 },
        env.reset.2.bind fun o => if env.ec.usePadding then padObs m.space o else some o) := by
  unfold MultiEnv.reset
  cases m.gs.next m.p with
  | error r => exact Or.inl ⟨r.2, rfl, Or.inl ⟨r.1, rfl⟩⟩
  | ok r =>
    obtain ⟨I, n, gs'⟩ := r
    simp only
    cases hmk : Env.make { I := I, F := m.F } { m.ec with usePadding := m.env.ec.usePadding } with
    | none => exact Or.inl ⟨gs', rfl, Or.inr ⟨I, n, rfl, hmk⟩⟩
    | some env =>
      refine Or.inr ⟨I, n, gs', env, rfl, hmk, ?_⟩
      simp only
      cases env.reset.2 <;> rfl

/-- **C18 (episodes of the multi environment).** A reset that returns an observation leaves the generator
parameters, the configuration, the filter and the declared spaces as the constructor set them, draws the new
instance from the generator (so it satisfies every clause of C19's shape theorem), and builds the episode's
environment with exactly the constructor's configuration. -/
theorem C18_multi_reset_config (m : MultiEnv) (o : EObs) (hf : FeatsOK m.ec.feats) (h : m.reset.2 = some o) :
    m.reset.1.p = m.p ∧ m.reset.1.ec = m.ec ∧ m.reset.1.F = m.F ∧ m.reset.1.space = m.space ∧
    ∃ I n gs', m.gs.next m.p = .ok (I, n, gs') ∧ m.reset.1.gs = gs' ∧
      m.reset.1.env.w.cfg = { I := I, F := m.F } ∧
      m.reset.1.env.ec = { m.ec with usePadding := m.env.ec.usePadding } := by
  rcases m.reset_cases with ⟨_, e, _⟩ | ⟨I, n, gs', env, hg, hmk, e⟩
  · rw [e] at h; cases h
  · rw [e]
    have hr := (EnvReach.make (c := { I := I, F := m.F }) (ec := { m.ec with usePadding := m.env.ec.usePadding }) hf
      hmk).apply .reset
    exact ⟨rfl, rfl, rfl, rfl, I, n, gs', hg, rfl, hr.cfg, hr.hec⟩

/-- the instances of the episodes lie within the generator's ranges (C19's shape theorem applies verbatim) -/
theorem C18_multi_instance_in_ranges (m : MultiEnv) (I : Instance) (n : Nat) (gs' : GenState)
    (h : m.gs.next m.p = .ok (I, n, gs')) :
    m.p.jobsRange.1 ≤ I.length ∧ I.length ≤ m.p.jobsRange.2 ∧
    ∃ nm, m.p.machinesRange.1 ≤ nm ∧ nm ≤ m.p.machinesRange.2 ∧ (m.p.allowLess = false → nm ≤ I.length) ∧
      ∀ job ∈ I, job.length = nm ∧ ∀ op ∈ job, OpShape m.p nm op := by
  obtain ⟨nm, d, hg, _, _⟩ := GenState.next_ok h
  obtain ⟨a, b, c, d', e, f⟩ := C19_shape m.p m.gs.draws I nm d hg
  exact ⟨a, b, nm, c, d', e, fun job hj => ⟨(f job hj).1, (f job hj).2.1⟩⟩

/-! non-vacuity: a concrete environment, an episode, a reset -/
example :
    let c : Cfg := { I := exampleInstance, F := some [.dominated] }
    let ec : EnvCfg := { builder := .agentTask, feats := [(.isReady, none), (.duration, some [.machines, .operations]),
      (.isCompleted, some [.jobs])] }
    (Env.make c ec).isSome = true ∧ FeatsOK ec.feats := by
  constructor
  · decide +kernel
  · exact featsOK_of_all (by decide)


/-! ## the step reward

No validity of the instance is needed for it: an accepted dispatch finds the entry it appended (the shapes of the dispatcher
state, `WF`, are kept by every dispatch) and every subscribed reward observer appends exactly one reward for it. -/

/-- the reward an accepted environment step returns is the last entry of the reward observer's list after the step, and
that list grew by exactly this one entry, provided the reward observer is subscribed once and the dispatcher state is well
shaped -/
theorem C18_step_reward' (e : Env) (hs : SubsOK e.w) (o : FObs) (ho : e.w.heap[e.rew]? = some o)
    (hk : o.kind = .makespanReward ∨ o.kind = .idleReward) (hsub : e.rew ∈ e.w.subs) (hwf : WF e.w.cfg.I e.w.s)
    (job : Nat) (machine : Int) (obs : EObs) (r : Int) (d t : Bool) (av : List OpRef)
    (h : (e.step job machine).2 = .ok obs r d t av) :
    ∃ o', (e.step job machine).1.w.heap[e.rew]? = some o' ∧ o'.rewards = o.rewards ++ [r] := by
  obtain ⟨w', hd, he, _, hr, _⟩ := Env.step_ok h
  obtain ⟨o', r', h1, h2, h3⟩ := dispatch_appends_one_reward' e.w hs e.rew o ho hk hsub job _ _ w' hd hwf
  rw [he]
  refine ⟨o', h1, ?_⟩
  have : r = r' := by
    rw [hr]
    simp only [Env.lastReward, getD_of_get h1, h3, Option.getD_some]
  rw [this]; exact h2

/-- **C13/C18 (step reward).** The reward an accepted environment step returns is the last entry of the reward
observer's list after the step, and that list grew by exactly this one entry — provided the reward observer is
subscribed once (which the constructor ensures) and the dispatcher state is reachable. -/
theorem C18_step_reward (e : Env) (hs : SubsOK e.w) (o : FObs) (ho : e.w.heap[e.rew]? = some o)
    (hk : o.kind = .makespanReward ∨ o.kind = .idleReward) (hsub : e.rew ∈ e.w.subs)
    (hv : Valid e.w.cfg.I) (hc : CInv e.w.cfg.I e.w.s)
    (job : Nat) (machine : Int) (obs : EObs) (r : Int) (d t : Bool) (av : List OpRef)
    (h : (e.step job machine).2 = .ok obs r d t av) :
    ∃ o', (e.step job machine).1.w.heap[e.rew]? = some o' ∧ o'.rewards = o.rewards ++ [r] :=
  C18_step_reward' e hs o ho hk hsub hc.wf job machine obs r d t av h

/-- the step reward in every reachable environment, on any instance -/
theorem C18_step_reward_reachable' (c : Cfg) (ec : EnvCfg) (e0 : Env) (hf : FeatsOK ec.feats)
    (hmk : Env.make c ec = some e0) (evs : List EnvEv) (job : Nat) (machine : Int)
    (obs : EObs) (r : Int) (d t : Bool) (av : List OpRef)
    (h : ((e0.runEvs evs).step job machine).2 = .ok obs r d t av) :
    ∃ o o', (e0.runEvs evs).w.heap[e0.rew]? = some o ∧
      ((e0.runEvs evs).step job machine).1.w.heap[e0.rew]? = some o' ∧ o'.rewards = o.rewards ++ [r] := by
  have hr := Env.runEvs_reach hf hmk evs
  obtain ⟨o, ho, hk⟩ := hr.rewKind
  obtain ⟨o', h1, h2⟩ := C18_step_reward' (e0.runEvs evs) hr.subs o ho (hk ▸ hr.isRew) hr.rewSub (hr.cfg ▸ hr.wf)
    job machine obs r d t av h
  rw [hr.rew] at ho h1
  exact ⟨o, o', ho, h1, h2⟩

/-- **C13 / C18 (step reward, every reachable environment).** For an environment built by the constructor on a valid
instance and driven through any sequence of steps and resets: the reward an accepted step returns is the single
reward the reward observer emitted for that step (its list grew by exactly that entry). -/
theorem C18_step_reward_reachable (c : Cfg) (ec : EnvCfg) (e0 : Env) (hf : FeatsOK ec.feats) (hv : Valid c.I)
    (hmk : Env.make c ec = some e0) (evs : List EnvEv) (job : Nat) (machine : Int)
    (obs : EObs) (r : Int) (d t : Bool) (av : List OpRef)
    (h : ((e0.runEvs evs).step job machine).2 = .ok obs r d t av) :
    ∃ o o', (e0.runEvs evs).w.heap[e0.rew]? = some o ∧
      ((e0.runEvs evs).step job machine).1.w.heap[e0.rew]? = some o' ∧ o'.rewards = o.rewards ++ [r] :=
  C18_step_reward_reachable' c ec e0 hf hmk evs job machine obs r d t av h

end JS
