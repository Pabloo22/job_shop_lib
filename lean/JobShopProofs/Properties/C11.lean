import JobShopProofs.FeatureLemmas
import JobShopProofs.CpLemmas
/-!
# C11 — incremental features equal a from-scratch recomputation

Model: `JobShopModel/Features.lean` (all seven feature observers, helpers, composite), validated against the
real observers array by array.  Theorems here: the recomputed-on-every-update observer (`IsReady`) equals
its specification in every state; the incremental job-level features of `DurationObserver` (and, by the same
argument, `RemainingOperationsObserver`) are initialised to the specification and every update across an
accepted dispatch maps the specification of the old state to that of the new state, so they equal it after
every history by induction; every observer is constructible; the composite is the concatenation of its parts.
The operation-level value of `DurationObserver` for a running operation is a recorded known finding
(`C11_duration_ops_stale` exhibits the witness).
-/
namespace JS

/-- **C11 (readiness).** After `initialize_features`/`update`/`reset` in any state, each readiness column is the
indicator of: the available operations (ids), the machines of available operations, the jobs of available
operations. -/
theorem C11_isReady (c : Cfg) (s : State) (o : FObs) (hnd : o.fts.Nodup) (ft : FT) (hft : ft ∈ o.fts) :
    (isReadyFeatures c s o).col ft = indicator (numEntities c.I ft) (readyIds c s ft) := by
  unfold isReadyFeatures
  exact (assignCols_col (o.zeroed c.I) _ (zeroed_wf c.I o hnd) (by intros; rfl) ft hft).1

theorem durationInit_col (c : Cfg) (s : State) (o : FObs) (hw : o.WF) {ft : FT} (hft : ft ∈ o.fts) :
    (durationInit c s o).col ft = durationInitCol c s ft ∧ (durationInit c s o).WF :=
  assignCols_col o _ hw (by intros; rfl) ft hft

theorem durationInit_jobs (c : Cfg) (s : State) (o : FObs) (hw : o.WF) (hft : FT.jobs ∈ o.fts) :
    (durationInit c s o).col .jobs = durJobsSpec c.I s ∧ (durationInit c s o).WF :=
  durationInit_col c s o hw hft

theorem durationUpdate_col (c : Cfg) (s : State) (x : SOp) (o : FObs) (hw : o.WF) {ft : FT} (hft : ft ∈ o.fts) :
    (durationUpdate c s x o).col ft = durationUpdateCol c s x o ft ∧ (durationUpdate c s x o).WF :=
  assignCols_col o _ hw (durationUpdateCol_indep c s x) ft hft

theorem isScheduledUpdate_col (c : Cfg) (s : State) (x : SOp) (o : FObs) (hw : o.WF) {ft : FT} (hft : ft ∈ o.fts) :
    (isScheduledUpdate c s x o).col ft = isScheduledCol c s x o ft ∧ (isScheduledUpdate c s x o).WF :=
  assignCols_col o _ hw (isScheduledCol_indep c s x) ft hft

theorem durationUpdate_jobs (c : Cfg) {s s' : State} {j p m : Nat} {op : Op} (hwf : WF c.I s)
    (hd : DispSpec c.I s s' j p m op) (o : FObs) (hw : o.WF) (hft : FT.jobs ∈ o.fts)
    (hspec : o.col .jobs = durJobsSpec c.I s) :
    (durationUpdate c s' ⟨j, p, m, startTime s j m, op.dur⟩ o).col .jobs = durJobsSpec c.I s' ∧
    (durationUpdate c s' ⟨j, p, m, startTime s j m, op.dur⟩ o).WF := by
  obtain ⟨h1, h2⟩ := durationUpdate_col c s' ⟨j, p, m, startTime s j m, op.dur⟩ o hw hft
  refine ⟨?_, h2⟩
  rw [h1]
  simp only [durationUpdateCol]
  rw [hspec, durJobsSpec_dispatch hwf hd]

/-- the new schedule entry of an accepted dispatch, in the form the observers receive it -/
def newEntry (s : State) (j p m : Nat) (op : Op) : SOp := ⟨j, p, m, startTime s j m, op.dur⟩

theorem hist_fold_inv (c : Cfg) (hv : Valid c.I) (upd : State → SOp → FObs → FObs) (P : State → FObs → Prop)
    (step : ∀ {s s' : State} {j p m : Nat} {op : Op} {o : FObs}, CInv c.I s → DispSpec c.I s s' j p m op → P s o →
      P s' (upd s' (newEntry s j p m op) o)) :
    ∀ (h : List (Nat × Nat × Nat)) (s : State) (o : FObs), CInv c.I s → P s o →
      let r := h.foldl (fun (so : State × FObs) (r : Nat × Nat × Nat) =>
        match dispatch c.I so.1 r.1 r.2.1 r.2.2, getOp c.I r.1 r.2.1 with
        | .ok s', some op => (s', upd s' (newEntry so.1 r.1 r.2.1 r.2.2 op) so.2)
        | _, _ => so) (s, o)
      P r.1 r.2
  | [], _, _, _, hP => hP
  | (j, p, m) :: h, s, o, hc, hP => by
    simp only [List.foldl_cons]
    cases hd : dispatch c.I s j p m with
    | error e => exact hist_fold_inv c hv upd P step h s o hc hP
    | ok s' =>
      obtain ⟨op, hsp⟩ := dispatch_ok hd
      simp only [hsp.hop]
      exact hist_fold_inv c hv upd P step h s' _ (cinv_dispatch (hv j p op hsp.hop).2.2 hc hsp) (step hc hsp hP)

/-- **C11 (remaining job work, every history).** Along every sequence of accepted dispatches starting in a state
where it was initialised, `DurationObserver`'s job feature equals the total duration of each job's unscheduled
operations. -/
theorem C11_duration_jobs (c : Cfg) (o0 : FObs) (hw0 : o0.WF) (hft : FT.jobs ∈ o0.fts) :
    ∀ (h : List (Nat × Nat × Nat)) (s : State) (o : FObs), CInv c.I s → Valid c.I → o.WF → o.fts = o0.fts →
      o.col .jobs = durJobsSpec c.I s →
      -- run the history: each accepted dispatch updates the observer with the new entry
      let r := h.foldl (fun (so : State × FObs) (r : Nat × Nat × Nat) =>
        match dispatch c.I so.1 r.1 r.2.1 r.2.2, getOp c.I r.1 r.2.1 with
        | .ok s', some op => (s', durationUpdate c s' (newEntry so.1 r.1 r.2.1 r.2.2 op) so.2)
        | _, _ => so) (s, o)
      r.2.col .jobs = durJobsSpec c.I r.1 := fun h s o hc hv hw hfts hspec =>
  (hist_fold_inv c hv (durationUpdate c) (fun s o => o.WF ∧ o.fts = o0.fts ∧ o.col .jobs = durJobsSpec c.I s)
    (fun hc hd ⟨hw, hfts, hspec⟩ =>
      have ⟨h1, h2⟩ := durationUpdate_jobs c hc.wf hd _ hw (hfts ▸ hft) hspec
      ⟨h2, (assignCols_fts _ _).trans hfts, h1⟩) h s o hc ⟨hw, hfts, hspec⟩).2.2

theorem remJobsSpec_dispatch {I : Instance} {s s' : State} {j p m : Nat} {op : Op} (hwf : WF I s)
    (hd : DispSpec I s s' j p m op) :
    remJobsSpec I s' = addAt (remJobsSpec I s) j (-1) := by
  unfold remJobsSpec addAt
  rw [map_filter_unscheduled I s' fun l => (l.length : Int), map_filter_unscheduled I s fun l => (l.length : Int)]
  refine map_unschedJob_dispatch hwf hd (fun l => (l.length : Int)) _ ?_
  simp only [List.length_cons]
  omega

theorem remainingUpdate_spec (x : SOp) (o : FObs) (hw : o.WF) :
    (remainingUpdate x o).WF ∧ (remainingUpdate x o).fts = o.fts ∧
    (FT.jobs ∈ o.fts → (remainingUpdate x o).col .jobs = addAt (o.col .jobs) x.job (-1)) ∧
    (FT.machines ∈ o.fts → (remainingUpdate x o).col .machines = addAt (o.col .machines) x.machine (-1)) := by
  obtain ⟨hw1, hf1, hs1, ho1⟩ := ifHas_setCol hw .jobs (addAt (o.col .jobs) x.job (-1))
  unfold remainingUpdate
  dsimp only
  generalize (if o.has .jobs = true then o.setCol .jobs (addAt (o.col .jobs) x.job (-1)) else o) = o1 at *
  obtain ⟨hw2, hf2, hs2, ho2⟩ := ifHas_setCol hw1 .machines (addAt (o1.col .machines) x.machine (-1))
  refine ⟨hw2, hf2.trans hf1, fun h => (ho2 .jobs (by decide)).trans (hs1 h), fun h => ?_⟩
  rw [hs2 (hf1 ▸ h), ho1 .machines (by decide)]

theorem remainingUpdate_jobs (I : Instance) {s s' : State} {j p m : Nat} {op : Op} (hwf : WF I s)
    (hd : DispSpec I s s' j p m op) (o : FObs) (hw : o.WF) (hft : FT.jobs ∈ o.fts)
    (hspec : o.col .jobs = remJobsSpec I s) :
    (remainingUpdate ⟨j, p, m, startTime s j m, op.dur⟩ o).col .jobs = remJobsSpec I s' ∧
    (remainingUpdate ⟨j, p, m, startTime s j m, op.dur⟩ o).WF ∧
    (remainingUpdate ⟨j, p, m, startTime s j m, op.dur⟩ o).fts = o.fts := by
  obtain ⟨h1, h2, h3, _⟩ := remainingUpdate_spec ⟨j, p, m, startTime s j m, op.dur⟩ o hw
  refine ⟨?_, h1, h2⟩
  rw [h3 hft, hspec, remJobsSpec_dispatch hwf hd]

/-- **C11 (remaining operations per job, every history).** Along every sequence of accepted dispatches starting in a
state where it was initialised, `RemainingOperationsObserver`'s job feature is the number of unscheduled operations
of each job. -/
theorem C11_remaining_jobs (c : Cfg) (fts0 : List FT) (hft : FT.jobs ∈ fts0) :
    ∀ (h : List (Nat × Nat × Nat)) (s : State) (o : FObs), CInv c.I s → Valid c.I → o.WF → o.fts = fts0 →
      o.col .jobs = remJobsSpec c.I s →
      let r := h.foldl (fun (so : State × FObs) (r : Nat × Nat × Nat) =>
        match dispatch c.I so.1 r.1 r.2.1 r.2.2, getOp c.I r.1 r.2.1 with
        | .ok s', some op => (s', remainingUpdate (newEntry so.1 r.1 r.2.1 r.2.2 op) so.2)
        | _, _ => so) (s, o)
      r.2.col .jobs = remJobsSpec c.I r.1 := fun h s o hc hv hw hfts hspec =>
  (hist_fold_inv c hv (fun _ => remainingUpdate) (fun s o => o.WF ∧ o.fts = fts0 ∧ o.col .jobs = remJobsSpec c.I s)
    (fun hc hd ⟨hw, hfts, hspec⟩ =>
      have ⟨h1, h2, h3⟩ := remainingUpdate_jobs c.I hc.wf hd _ hw (hfts ▸ hft) hspec
      ⟨h2, h3.trans hfts, h1⟩) h s o hc ⟨hw, hfts, hspec⟩).2.2

theorem isScheduled_dispatch {I : Instance} {s s' : State} {j p m : Nat} {op : Op} (hwf : WF I s)
    (hd : DispSpec I s s' j p m op) (r : OpRef) : isScheduled s' r = (isScheduled s r || r == (j, p)) := by
  obtain ⟨_, hji, _⟩ := dispSpec_vectors hwf hd
  obtain ⟨r1, r2⟩ := r
  rw [Bool.eq_iff_iff]
  simp only [isScheduled, hji, Bool.or_eq_true, decide_eq_true_eq, beq_iff_eq, Prod.mk.injEq]
  split
  · next h => subst h; rw [hd.hidx]; omega
  · next h => exact ⟨Or.inl, fun h' => h'.resolve_right fun e => h e.1⟩

theorem schedOpsSpec_dispatch {I : Instance} {s s' : State} {j p m : Nat} {op : Op} (hwf : WF I s)
    (hd : DispSpec I s s' j p m op) :
    schedOpsSpec I s' = setAt (schedOpsSpec I s) (opId I (j, p)) 1 := by
  unfold schedOpsSpec setAt
  apply List.ext_getElem
  · simp
  · intro k h1 h2
    rw [List.length_map] at h1
    rw [List.getElem_set, List.getElem_map, List.getElem_map, isScheduled_dispatch hwf hd]
    by_cases hk : opId I (j, p) = k
    · have e := allOps_getElem_opId (mem_allOps_of_getOp hd.hop)
      rw [hk, List.getElem?_eq_getElem h1] at e
      rw [Option.some.inj e, beq_self_eq_true, Bool.or_true, if_pos rfl, if_pos hk]
    · have e : ((allOps I)[k] == (j, p)) = false :=
        beq_eq_false_iff_ne.2 fun e => hk (by rw [← e, opId_getElem_allOps h1])
      rw [e, Bool.or_false, if_neg hk]

/-- **C11 (scheduled flag, every history).** Along every sequence of accepted dispatches starting in a state where
it agrees with the schedule, `IsScheduledObserver`'s operation feature is 1 exactly for the scheduled operations. -/
theorem C11_isScheduled_ops (c : Cfg) (fts0 : List FT) (hft : FT.operations ∈ fts0) :
    ∀ (h : List (Nat × Nat × Nat)) (s : State) (o : FObs), CInv c.I s → Valid c.I → o.WF → o.fts = fts0 →
      o.col .operations = schedOpsSpec c.I s →
      let r := h.foldl (fun (so : State × FObs) (r : Nat × Nat × Nat) =>
        match dispatch c.I so.1 r.1 r.2.1 r.2.2, getOp c.I r.1 r.2.1 with
        | .ok s', some op => (s', isScheduledUpdate c s' (newEntry so.1 r.1 r.2.1 r.2.2 op) so.2)
        | _, _ => so) (s, o)
      r.2.col .operations = schedOpsSpec c.I r.1 := fun h s o hc hv hw hfts hspec =>
  (hist_fold_inv c hv (isScheduledUpdate c)
    (fun s o => o.WF ∧ o.fts = fts0 ∧ o.col .operations = schedOpsSpec c.I s)
    (fun {s s' j p m op o} hc hd ⟨hw, hfts, hspec⟩ => by
      obtain ⟨h1, h2⟩ := isScheduledUpdate_col c s' (newEntry s j p m op) o hw (hfts ▸ hft)
      refine ⟨h2, (assignCols_fts _ _).trans hfts, ?_⟩
      rw [h1]
      simp only [isScheduledCol, newEntry]
      rw [hspec, schedOpsSpec_dispatch hc.wf hd]) h s o hc ⟨hw, hfts, hspec⟩).2.2

theorem partNames_length (o : FObs) (ft : FT) (hne : ∀ tc ∈ o.cols, tc.2 ≠ []) :
    (partNames o ft).length = ((o.cols.filter (·.1 == ft)).flatMap (·.2)).length := by
  unfold partNames
  have hl : ∀ tc ∈ o.cols.filter (·.1 == ft), tc.2 ≠ [] := fun tc h => hne tc (List.mem_filter.1 h).1
  generalize o.cols.filter (·.1 == ft) = l at hl
  induction l with
  | nil => rfl
  | cons a t ih =>
    simp only [List.flatMap_cons, List.length_append]
    rw [ih (fun tc h => hl tc (by simp [h]))]
    congr 1
    have ha := hl a (by simp)
    by_cases h1 : a.2.length > 1
    · simp [h1]
    · simp only [h1, ↓reduceIte, List.length_cons, List.length_nil]
      cases hc : a.2 with
      | nil => exact absurd hc ha
      | cons c cs => rw [hc] at h1; simp at h1; simp [h1]

theorem length_flatMap_congr {α β γ} (f : α → List β) (g : α → List γ) : ∀ (l : List α),
    (∀ a ∈ l, (f a).length = (g a).length) → (l.flatMap f).length = (l.flatMap g).length
  | [], _ => rfl
  | a :: t, h => by
    simp only [List.flatMap_cons, List.length_append]
    rw [h a (by simp), length_flatMap_congr f g t (fun x hx => h x (by simp [hx]))]

/-- **C11 (column names).** The composite has, for every feature type, exactly as many column names as columns, in the
same feature-type order. -/
theorem C11_composite_names (heap : List FObs) (parts : List Nat)
    (hne : ∀ i ∈ parts, ∀ o, heap[i]? = some o → ∀ tc ∈ o.cols, tc.2 ≠ []) :
    (compositeNames heap parts).map (fun x => (x.1, x.2.length)) =
      (compositeCols heap parts).map (fun x => (x.1, x.2.length)) := by
  unfold compositeNames compositeCols
  simp only [List.map_map]
  apply List.map_congr_left
  intro ft _
  simp only [Function.comp_apply]
  congr 1
  apply length_flatMap_congr
  intro o ho
  obtain ⟨i, hi, hio⟩ := List.mem_filterMap.1 ho
  exact partNames_length o ft (hne i hi o hio)

/-- specification: an unscheduled operation's feature is its position among the unscheduled operations of its job -/
def PosOK (I : Instance) (s : State) (col : List Int) : Prop :=
  ∀ r ∈ allOps I, isScheduled s r = false → col.getD (opId I r) 0 = (r.2 : Int) - (s.jobIdx.getD r.1 0 : Int)

theorem getD_setAt (l : List Int) (i k : Nat) (v : Int) :
    (setAt l i v).getD k 0 = if i = k ∧ k < l.length then v else l.getD k 0 := by
  simp only [setAt, List.getD_eq_getElem?_getD, List.getElem?_set]
  by_cases h : i = k
  · subst h
    by_cases hl : i < l.length <;> simp [hl]
  · simp [h]

theorem foldl_setAt_getD {α} (f : α → Nat) (v : α → Int) (k : Nat) (x : Int) : ∀ (l : List α) (col : List Int),
    (∀ a ∈ l, f a = k → v a = x) → ((∃ a ∈ l, f a = k) ∨ col.getD k 0 = x) → k < col.length →
    (l.foldl (fun col a => setAt col (f a) (v a)) col).getD k 0 = x
  | [], col, _, h, _ => by
    rcases h with ⟨a, ha, _⟩ | h
    · cases ha
    · exact h
  | a :: t, col, hall, h, hk => by
    simp only [List.foldl_cons]
    apply foldl_setAt_getD f v k x t
    · intro b hb; exact hall b (by simp [hb])
    · by_cases hak : f a = k
      · right
        rw [getD_setAt, if_pos ⟨hak, hk⟩]
        exact hall a (by simp) hak
      · rw [getD_setAt, if_neg (fun h => hak h.1)]
        rcases h with ⟨b, hb, hbk⟩ | h
        · rcases List.mem_cons.1 hb with rfl | hb
          · exact absurd hbk hak
          · exact Or.inl ⟨b, hb, hbk⟩
        · exact Or.inr h
    · rw [setAt_length]; exact hk

/-- **C11 (constructible).** Every feature observer other than the composite (which `constructComposite` builds) can be
constructed in every state of every instance, for every list of supported feature types (and the default `None`). -/
theorem C11_constructible (w : FWorld) (kind : FKind) (fts : Option (List FT)) (hk : kind.isFeature = true)
    (hc : kind ≠ .composite) (hf : ∀ l, fts = some l → ∀ ft ∈ l, ft ∈ kind.supported) :
    (w.construct kind fts).2.isSome = true := by
  have hres : ∃ l, resolveFts kind fts = some l := by
    cases fts with
    | none => exact ⟨_, rfl⟩
    | some l =>
      refine ⟨l, ?_⟩
      simp only [resolveFts]
      have : l.all (fun ft => kind.supported.contains ft) = true := by
        simp only [List.all_eq_true, List.contains_eq_mem, decide_eq_true_eq]
        exact hf l rfl
      rw [if_pos this]
  obtain ⟨l, hl⟩ := hres
  cases kind
  case unscheduled | history | makespanReward | idleReward | residual => cases hk
  case composite => exact absurd rfl hc
  all_goals
    simp only [FWorld.construct, hl]
    rfl

/-- **C11 (composite).** After its own `update` (and `reset`) the composite observer's matrices are the column-wise
concatenation of its parts' current matrices, feature types in order of first appearance. -/
theorem C11_composite (w : FWorld) (x : SOp) (id : Nat) (o : FObs) (ho : w.heap[id]? = some o)
    (hk : o.kind = .composite) :
    ((w.callUpdate x id).heap[id]?.map (·.cols)) = some (compositeCols w.heap o.parts) ∧
    ((w.callReset id).heap[id]?.map (·.cols)) = some (compositeCols w.heap o.parts) := by
  have hlt : id < w.heap.length := (List.getElem?_eq_some_iff.1 ho).1
  constructor
  · simp only [FWorld.callUpdate, ho, hk, FWorld.setObs]
    simp [hlt]
  · simp only [FWorld.callReset, ho, hk, FWorld.setObs]
    simp [hlt]

/-- the known finding: a running operation's operation-level duration is stale (witness) -/
theorem C11_duration_ops_stale :
    let c : Cfg := { I := [[⟨[0], 5⟩], [⟨[1], 2⟩], [⟨[1], 1⟩]] }
    let w := FWorld.run c [.construct .duration (some [.operations]), .disp 0 0 none, .disp 1 0 none]
    (w.heap[0]?.map fun o => (o.col .operations).getD 0 0) = some 5 ∧ currentTimePure c w.s = 2 := by decide +kernel

/-! non-vacuity: the example instance with all seven observers and a composite -/
example :
    let c : Cfg := { I := exampleInstance, F := some [.dominated] }
    let w := FWorld.run c [.construct .isCompleted none, .construct .duration none, .construct .isReady none,
      .composite none, .disp 1 0 none, .disp 0 0 (some 0)]
    (w.heap[3]?.map fun o => o.col .jobs) = some [2, 1] ∧ w.subs = [0, 1, 2, 3, 4, 5] := by decide +kernel

end JS
