import JobShopModel.Graph
import JobShopProofs.Refine
/-!
# Graphs under construction

`GInv`: a removed node has no outgoing edge and no edge points to a removed or non-existent node.  While a graph is
being built (`add_node`, `add_edge` only) more is true: nothing is removed, and the typed-edge relation is known exactly.
`Stage g ns S` packages this; `stage_fold` is the one induction behind every builder: after inserting the pairs of a list
`L` with type `t₀`, the edge `u → v` has type `t` iff it had type `t` before and `(u, v)` is not in `L`, or `(u, v)` is in
`L` and `t = t₀` (`JobShopGraph.add_edge` on an existing edge overwrites its attributes: the last insertion decides).
-/
namespace JS

theorem foldl_pres {α β} {P : β → Prop} (f : β → α → β) : ∀ (l : List α) (b : β),
    (∀ b, P b → ∀ a ∈ l, P (f b a)) → P b → P (l.foldl f b)
  | [], _, _, h => h
  | a :: t, b, hf, h =>
    foldl_pres f t _ (fun b hb x hx => hf b hb x (List.mem_cons_of_mem _ hx)) (hf b h a List.mem_cons_self)

theorem nodeIdOf_congr {g g' : Graph} (h : g'.nodes = g.nodes) (k : NodeKind) : nodeIdOf g' k = nodeIdOf g k := by
  unfold nodeIdOf; rw [h]

theorem addEdge_nodes (g : Graph) (u v : Nat) (t : EType) : (g.addEdge u v t).nodes = g.nodes := by
  unfold Graph.addEdge; split <;> rfl
theorem addBoth_nodes (g : Graph) (u v : Nat) (t : EType) : (addBoth g u v t).nodes = g.nodes := by
  unfold addBoth; rw [addEdge_nodes, addEdge_nodes]

theorem foldl_nodes {α} (f : Graph → α → Graph) (hf : ∀ g a, (f g a).nodes = g.nodes) :
    ∀ (l : List α) (g : Graph), (l.foldl f g).nodes = g.nodes
  | [], _ => rfl
  | a :: t, g => by simp only [List.foldl_cons]; rw [foldl_nodes f hf t, hf]

theorem foldl_addNode_nodes {α} (k : α → NodeKind) : ∀ (l : List α) (g : Graph),
    (l.foldl (fun g a => g.addNode (k a)) g).nodes = g.nodes ++ l.map k
  | [], g => by simp
  | a :: t, g => by
    simp only [List.foldl_cons, List.map_cons]
    rw [foldl_addNode_nodes k t]; simp [Graph.addNode]

theorem opNodesGraph_nodes (I : Instance) : (opNodesGraph I).nodes = (List.range (numOps I)).map .operation := by
  unfold opNodesGraph
  rw [foldl_addNode_nodes]; rfl

theorem addDisjunctiveEdges_nodes (I : Instance) (g : Graph) : (addDisjunctiveEdges I g).nodes = g.nodes :=
  foldl_nodes _ (fun _ _ => foldl_nodes _ (fun _ _ => addBoth_nodes ..) ..) ..

theorem addConjunctiveEdges_nodes (I : Instance) (g : Graph) : (addConjunctiveEdges I g).nodes = g.nodes :=
  foldl_nodes _ (fun _ _ => foldl_nodes _ (fun _ _ => addEdge_nodes ..) ..) ..

theorem addSourceSink_nodes (I : Instance) (g : Graph) : (addSourceSink I g).nodes = g.nodes ++ [.source, .sink] := by
  unfold addSourceSink
  simp only
  rw [foldl_nodes _ (by intro g j; split <;> simp [addEdge_nodes])]
  simp only [Graph.addNode, List.append_assoc, List.cons_append, List.nil_append]

theorem addMachineNodes_nodes (I : Instance) (g : Graph) :
    (addMachineNodes I g).nodes = g.nodes ++ (List.range (numMachines I)).map .machine :=
  foldl_addNode_nodes ..

theorem addJobNodes_nodes (I : Instance) (g : Graph) :
    (addJobNodes I g).nodes = g.nodes ++ (List.range I.length).map .job :=
  foldl_addNode_nodes ..

theorem addOperationMachineEdges_nodes (I : Instance) (g : Graph) : (addOperationMachineEdges I g).nodes = g.nodes :=
  foldl_nodes _ (fun _ _ => foldl_nodes _ (fun _ _ => addBoth_nodes ..) ..) ..

theorem addMachineMachineEdges_nodes (I : Instance) (g : Graph) : (addMachineMachineEdges I g).nodes = g.nodes :=
  foldl_nodes _ (fun _ _ => addBoth_nodes ..) ..

theorem addSameJobEdges_nodes (I : Instance) (g : Graph) : (addSameJobEdges I g).nodes = g.nodes :=
  foldl_nodes _ (fun _ _ => foldl_nodes _ (fun _ _ => addBoth_nodes ..) ..) ..

theorem addOperationJobEdges_nodes (I : Instance) (g : Graph) : (addOperationJobEdges I g).nodes = g.nodes :=
  foldl_nodes _ (fun _ _ => foldl_nodes _ (fun _ _ => addBoth_nodes ..) ..) ..

theorem addJobJobEdges_nodes (I : Instance) (g : Graph) : (addJobJobEdges I g).nodes = g.nodes :=
  foldl_nodes _ (fun _ _ => addBoth_nodes ..) ..

theorem addGlobal_nodes (I : Instance) (g : Graph) : (addGlobal I g).nodes = g.nodes ++ [.global] := by
  unfold addGlobal
  simp only
  rw [foldl_nodes _ (fun _ _ => addBoth_nodes ..), foldl_nodes _ (fun _ _ => addBoth_nodes ..)]
  rfl

structure GInv (g : Graph) : Prop where
  lenA : g.adj.length = g.nodes.length
  lenR : g.removed.length = g.nodes.length
  noOut : ∀ u, u < g.nodes.length → g.removed.getD u true = true → g.adj.getD u [] = []
  target : ∀ w e, e ∈ g.adj.getD w [] → g.present e.1 = true

theorem present_iff_lt_and {g : Graph} {a : Nat} :
    g.present a = true ↔ a < g.nodes.length ∧ g.removed.getD a true = false := by
  simp [Graph.present]

theorem present_lt {g : Graph} {a : Nat} (h : g.present a = true) : a < g.nodes.length :=
  (present_iff_lt_and.1 h).1

theorem getD_append_left {α} (l t : List α) (k : Nat) (d : α) (h : k < l.length) : (l ++ t).getD k d = l.getD k d := by
  simp [List.getD_eq_getElem?_getD, List.getElem?_append_left h]

theorem getD_nil_of_le {α} (l : List (List α)) (k : Nat) (h : l.length ≤ k) : l.getD k [] = [] := by
  simp only [List.getD_eq_getElem?_getD]
  rw [List.getElem?_eq_none h]; rfl

theorem getD_of_idxOf {α} [BEq α] [LawfulBEq α] {l : List α} {x : α} {k : Nat} (h : List.idxOf x l = k)
    (hk : k < l.length) (d : α) : l.getD k d = x := by
  subst h
  rw [List.getD_eq_getElem?_getD, List.getElem?_eq_getElem hk, Option.getD_some]
  exact List.getElem_idxOf hk

theorem ginv_empty : GInv {} := by
  constructor <;> simp [Graph.present]

theorem addNode_adj_getD (g : Graph) (k : NodeKind) (u : Nat) :
    (g.addNode k).adj.getD u [] = g.adj.getD u [] := by
  simp only [Graph.addNode]
  by_cases hlt : u < g.adj.length
  · rw [getD_append_left _ _ _ _ hlt]
  · rw [getD_nil_of_le g.adj u (by omega)]
    by_cases heq : u = g.adj.length
    · subst heq; simp [List.getD_eq_getElem?_getD]
    · rw [getD_nil_of_le _ u (by simp; omega)]

theorem addNode_present {g : Graph} (hg : GInv g) (k : NodeKind) {a : Nat} (h : g.present a = true) :
    (g.addNode k).present a = true := by
  rw [present_iff_lt_and] at h ⊢
  simp only [Graph.addNode, List.length_append, List.length_singleton]
  refine ⟨by omega, ?_⟩
  rw [getD_append_left _ _ _ _ (by rw [hg.lenR]; exact h.1)]
  exact h.2

theorem ginv_addNode {g : Graph} (h : GInv g) (k : NodeKind) : GInv (g.addNode k) := by
  refine ⟨by simp [Graph.addNode, h.lenA], by simp [Graph.addNode, h.lenR], ?_, ?_⟩
  · intro u hu hr
    rw [addNode_adj_getD]
    simp only [Graph.addNode, List.length_append, List.length_singleton] at hu hr
    by_cases hlt : u < g.nodes.length
    · rw [getD_append_left _ _ _ _ (by rw [h.lenR]; exact hlt)] at hr
      exact h.noOut u hlt hr
    · have : u = g.removed.length := by rw [h.lenR]; omega
      subst this
      simp [List.getD_eq_getElem?_getD] at hr
  · intro w e he
    rw [addNode_adj_getD] at he
    exact addNode_present h k (h.target w e he)

theorem addEdge_removed (g : Graph) (u v : Nat) (t : EType) : (g.addEdge u v t).removed = g.removed := by
  unfold Graph.addEdge; split <;> rfl

theorem addEdge_present (g : Graph) (u v : Nat) (t : EType) (x : Nat) : (g.addEdge u v t).present x = g.present x := by
  unfold Graph.addEdge; split <;> rfl

theorem addEdge_adj (g : Graph) (hg : GInv g) (x y : Nat) (t0 : EType) (u : Nat) :
    (g.addEdge x y t0).adj.getD u [] =
      if (g.present x && g.present y) = true ∧ u = x then
        (if (g.adj.getD x []).any (·.1 == y) then (g.adj.getD x []).map fun e => if e.1 == y then (y, t0) else e
         else g.adj.getD x [] ++ [(y, t0)])
      else g.adj.getD u [] := by
  unfold Graph.addEdge
  by_cases hp : (g.present x && g.present y) = true
  · have hlt : x < g.adj.length := by
      rw [hg.lenA]; exact present_lt (Bool.and_eq_true_iff.1 hp).1
    simp only [hp, ↓reduceIte, true_and]
    exact getD_modify_eq _ _ x [] hlt u
  · rw [if_neg hp, if_neg (fun h => hp h.1)]

theorem mem_upsert (l : List (Nat × EType)) (y : Nat) (t0 : EType) (v : Nat) (t : EType) :
    (v, t) ∈ (if l.any (·.1 == y) then l.map (fun e => if e.1 == y then (y, t0) else e) else l ++ [(y, t0)]) ↔
      if v = y then t = t0 else (v, t) ∈ l := by
  by_cases hvy : v = y
  · subst hvy
    rw [if_pos rfl]
    split
    · rename_i hany
      obtain ⟨e, he, hk⟩ := List.any_eq_true.1 hany
      simp only [List.mem_map]
      constructor
      · rintro ⟨e', _, heq⟩
        split at heq
        · exact (congrArg Prod.snd heq).symm
        · rename_i hk'
          exact absurd (by rw [heq]; simp) hk'
      · rintro rfl
        exact ⟨e, he, by rw [if_pos hk]⟩
    · rename_i hany
      simp only [List.mem_append, List.mem_singleton, Prod.mk.injEq, true_and]
      exact ⟨fun h => h.elim (fun h => absurd (List.any_eq_true.2 ⟨(v, t), h, by simp⟩) hany) id, Or.inr⟩
  · rw [if_neg hvy]
    split
    · simp only [List.mem_map]
      constructor
      · rintro ⟨e', he', heq⟩
        split at heq
        · exact absurd (congrArg Prod.fst heq).symm hvy
        · exact heq ▸ he'
      · intro h
        exact ⟨(v, t), h, by rw [if_neg (by simpa using hvy)]⟩
    · simp [hvy]

/-- networkx keeps one entry per successor: the successor ids of an adjacency list stay duplicate free -/
theorem upsert_keys (l : List (Nat × EType)) (y : Nat) (t0 : EType) (h : (l.map Prod.fst).Nodup) :
    ((if l.any (·.1 == y) then l.map (fun e => if e.1 == y then (y, t0) else e) else l ++ [(y, t0)]).map
      Prod.fst).Nodup := by
  by_cases hany : l.any (·.1 == y) = true
  · rw [if_pos hany, List.map_map]
    have : (Prod.fst ∘ fun e : Nat × EType => if e.1 == y then (y, t0) else e) = Prod.fst := by
      funext e
      simp only [Function.comp]
      by_cases he : (e.1 == y) = true
      · simp only [he, ↓reduceIte]; exact (beq_iff_eq.1 he).symm
      · simp only [he, Bool.false_eq_true, ↓reduceIte]
    rw [this]; exact h
  · rw [if_neg hany, List.map_append, List.nodup_append]
    refine ⟨h, by simp, ?_⟩
    intro a ha b hb
    simp only [List.map_cons, List.map_nil, List.mem_singleton] at hb
    subst hb
    intro e; subst e
    obtain ⟨e, he, rfl⟩ := List.mem_map.1 ha
    exact hany (List.any_eq_true.2 ⟨e, he, by simp⟩)

theorem ginv_addEdge {g : Graph} (h : GInv g) (u v : Nat) (t : EType) : GInv (g.addEdge u v t) := by
  refine ⟨?_, by rw [addEdge_nodes, addEdge_removed]; exact h.lenR, ?_, ?_⟩
  · rw [addEdge_nodes, ← h.lenA]
    unfold Graph.addEdge; split
    · exact List.length_modify ..
    · rfl
  · intro k hk hr
    rw [addEdge_nodes] at hk
    rw [addEdge_removed] at hr
    rw [addEdge_adj g h, if_neg, h.noOut k hk hr]
    rintro ⟨hp, rfl⟩
    rw [(present_iff_lt_and.1 (Bool.and_eq_true_iff.1 hp).1).2] at hr
    cases hr
  · intro w e he
    rw [addEdge_present]
    rw [addEdge_adj g h] at he
    split at he
    · rename_i hc
      have he' := (mem_upsert _ v t e.1 e.2).1 he
      split at he'
      · rename_i hev
        rw [hev]; exact (Bool.and_eq_true_iff.1 hc.1).2
      · exact h.target u e he'
    · exact h.target w e he

def HasEdge (g : Graph) (u v : Nat) (t : EType) : Prop := (v, t) ∈ g.adj.getD u []

theorem addEdge_hasEdge (g : Graph) (hg : GInv g) (x y : Nat) (t0 : EType)
    (hp : (g.present x && g.present y) = true) (u v : Nat) (t : EType) :
    HasEdge (g.addEdge x y t0) u v t ↔ if (u, v) = (x, y) then t = t0 else HasEdge g u v t := by
  unfold HasEdge
  rw [addEdge_adj g hg x y t0 u]
  by_cases hu : u = x
  · subst hu
    simp only [hp, and_self, ↓reduceIte]
    rw [mem_upsert]
    by_cases hvy : v = y <;> simp [hvy]
  · have : ¬ ((u, v) = (x, y)) := fun h => hu (congrArg Prod.fst h)
    simp only [hu, and_false, ↓reduceIte, this]

theorem addEdge_keys (g : Graph) (hg : GInv g) (x y : Nat) (t0 : EType)
    (h : ∀ u, ((g.adj.getD u []).map Prod.fst).Nodup) (u : Nat) :
    (((g.addEdge x y t0).adj.getD u []).map Prod.fst).Nodup := by
  rw [addEdge_adj g hg x y t0 u]
  split
  · exact upsert_keys _ y t0 (h x)
  · exact h u

def NoRemoved (g : Graph) : Prop := ∀ k, k < g.nodes.length → g.removed.getD k true = false

theorem noRemoved_addNode {g : Graph} (hg : GInv g) (h : NoRemoved g) (k : NodeKind) : NoRemoved (g.addNode k) := by
  intro i hi
  simp only [Graph.addNode, List.length_append, List.length_singleton] at hi ⊢
  by_cases hlt : i < g.nodes.length
  · rw [getD_append_left _ _ _ _ (by rw [hg.lenR]; exact hlt)]; exact h i hlt
  · have : i = g.removed.length := by rw [hg.lenR]; omega
    subst this
    simp [List.getD_eq_getElem?_getD]

theorem noRemoved_addEdge {g : Graph} (h : NoRemoved g) (x y : Nat) (t : EType) : NoRemoved (g.addEdge x y t) := by
  intro i hi
  rw [addEdge_nodes] at hi
  rw [addEdge_removed]
  exact h i hi

theorem present_of_noRemoved {g : Graph} (h : NoRemoved g) {a : Nat} (ha : a < g.nodes.length) : g.present a = true := by
  have := h a ha
  simp only [Graph.present, Bool.and_eq_true, decide_eq_true_eq, Bool.not_eq_true']
  exact ⟨ha, this⟩

theorem mem_edges_iff (g : Graph) (u v : Nat) (t : EType) :
    (u, v, t) ∈ g.edges ↔ u < g.nodes.length ∧ g.present u = true ∧ (v, t) ∈ g.adj.getD u [] := by
  simp only [Graph.edges, List.mem_flatMap, List.mem_range]
  constructor
  · rintro ⟨w, hw, hmem⟩
    by_cases hp : g.present w = true
    · rw [if_pos hp] at hmem
      simp only [List.mem_map, Prod.mk.injEq] at hmem
      obtain ⟨e, he, rfl, rfl, rfl⟩ := hmem
      exact ⟨hw, hp, he⟩
    · rw [if_neg hp] at hmem; cases hmem
  · rintro ⟨hu, hp, hmem⟩
    refine ⟨u, hu, ?_⟩
    rw [if_pos hp]
    exact List.mem_map.2 ⟨(v, t), hmem, rfl⟩

/-- a graph under construction: well formed, nothing removed, known node list, known typed-edge relation, at most one
edge (of any type) from a node to another -/
structure Stage (g : Graph) (ns : List NodeKind) (S : Nat → Nat → EType → Prop) : Prop where
  inv : GInv g
  nr : NoRemoved g
  nodes : g.nodes = ns
  edges : ∀ u v t, HasEdge g u v t ↔ S u v t
  keys : ∀ u, ((g.adj.getD u []).map Prod.fst).Nodup

theorem stage_congr {g : Graph} {ns : List NodeKind} {S S' : Nat → Nat → EType → Prop} (h : Stage g ns S)
    (hS : ∀ u v t, S u v t ↔ S' u v t) : Stage g ns S' :=
  ⟨h.inv, h.nr, h.nodes, fun u v t => (h.edges u v t).trans (hS u v t), h.keys⟩

theorem stage_empty : Stage {} [] (fun _ _ _ => False) := by
  refine ⟨ginv_empty, ?_, rfl, ?_, ?_⟩
  · intro k hk; simp at hk
  · intro u v t; simp [HasEdge]
  · intro u; simp

theorem addNode_hasEdge (g : Graph) (k : NodeKind) (u v : Nat) (t : EType) :
    HasEdge (g.addNode k) u v t ↔ HasEdge g u v t := by
  unfold HasEdge
  rw [addNode_adj_getD]

theorem stage_addNode {g : Graph} {ns : List NodeKind} {S : Nat → Nat → EType → Prop} (h : Stage g ns S)
    (k : NodeKind) : Stage (g.addNode k) (ns ++ [k]) S :=
  ⟨ginv_addNode h.inv k, noRemoved_addNode h.inv h.nr k, by simp [Graph.addNode, h.nodes],
    fun u v t => (addNode_hasEdge g k u v t).trans (h.edges u v t),
    fun u => by rw [addNode_adj_getD]; exact h.keys u⟩

theorem stage_addNodes {α} (k : α → NodeKind) {S : Nat → Nat → EType → Prop} : ∀ (l : List α) {g : Graph}
    {ns : List NodeKind}, Stage g ns S → Stage (l.foldl (fun g a => g.addNode (k a)) g) (ns ++ l.map k) S
  | [], g, ns, h => by simpa using h
  | a :: l, g, ns, h => by
    simp only [List.foldl_cons, List.map_cons]
    have := stage_addNodes k l (stage_addNode h (k a))
    simpa using this

theorem stage_fold (t0 : EType) : ∀ (L : List (Nat × Nat)) {g : Graph} {ns : List NodeKind}
    {S : Nat → Nat → EType → Prop}, Stage g ns S → (∀ x y, (x, y) ∈ L → x < ns.length ∧ y < ns.length) →
    Stage (L.foldl (fun g xy => g.addEdge xy.1 xy.2 t0) g) ns
      (fun u v t => (S u v t ∧ (u, v) ∉ L) ∨ ((u, v) ∈ L ∧ t = t0))
  | [], g, ns, S, h, _ => by
    apply stage_congr h
    intro u v t; simp
  | (x, y) :: L, g, ns, S, h, hL => by
    simp only [List.foldl_cons]
    obtain ⟨hx, hy⟩ := hL x y List.mem_cons_self
    have hp : (g.present x && g.present y) = true := by
      rw [present_of_noRemoved h.nr (by rw [h.nodes]; exact hx), present_of_noRemoved h.nr (by rw [h.nodes]; exact hy)]
      rfl
    have h1 : Stage (g.addEdge x y t0) ns (fun u v t => if (u, v) = (x, y) then t = t0 else S u v t) := by
      refine ⟨ginv_addEdge h.inv x y t0, noRemoved_addEdge h.nr x y t0, by rw [addEdge_nodes]; exact h.nodes, ?_,
        addEdge_keys g h.inv x y t0 h.keys⟩
      intro u v t
      rw [addEdge_hasEdge g h.inv x y t0 hp]
      by_cases hc : (u, v) = (x, y)
      · simp only [hc, ↓reduceIte]
      · simp only [hc, ↓reduceIte]; exact h.edges u v t
    apply stage_congr (stage_fold t0 L h1 (fun x' y' h' => hL x' y' (List.mem_cons_of_mem _ h')))
    intro u v t
    simp only [List.mem_cons]
    by_cases hc : (u, v) = (x, y)
    · obtain ⟨rfl, rfl⟩ := Prod.mk.inj hc
      by_cases hm : (u, v) ∈ L <;> simp [hm]
    · simp [hc]

theorem stage_edges {g : Graph} {ns : List NodeKind} {S : Nat → Nat → EType → Prop} (h : Stage g ns S)
    (u v : Nat) (t : EType) : (u, v, t) ∈ g.edges ↔ S u v t := by
  rw [mem_edges_iff, ← h.edges]
  constructor
  · exact fun h => h.2.2
  · intro he
    have hlt : u < g.nodes.length := by
      apply Classical.byContradiction
      intro hn
      unfold HasEdge at he
      rw [getD_nil_of_le _ u (by rw [h.inv.lenA]; omega)] at he
      cases he
    exact ⟨hlt, present_of_noRemoved h.nr hlt, he⟩

theorem stage_edges_nodup {g : Graph} {ns : List NodeKind} {S : Nat → Nat → EType → Prop} (h : Stage g ns S) :
    (g.edges.map fun e => (e.1, e.2.1)).Nodup := by
  unfold Graph.edges
  rw [List.map_flatMap]
  unfold List.Nodup
  rw [List.pairwise_flatMap]
  constructor
  · intro u _
    split
    · rw [List.map_map]
      exact (List.pairwise_map.1 (h.keys u)).map _ fun _ _ hab e => hab (congrArg Prod.snd e)
    · exact List.Pairwise.nil
  · apply List.Pairwise.imp _ (List.nodup_range (n := g.nodes.length))
    intro a b hab x hx y hy e
    -- every pair of the `a`-th block starts with `a`
    have src : ∀ {a : Nat} {x : Nat × Nat}, x ∈ List.map (fun e : Nat × Nat × EType => (e.1, e.2.1))
        (if g.present a = true then (g.adj.getD a []).map fun e => (a, e.1, e.2) else []) → x.1 = a := by
      intro a x hx
      split at hx
      · simp only [List.map_map, List.mem_map, Function.comp] at hx
        obtain ⟨_, _, rfl⟩ := hx; rfl
      · cases hx
    exact hab (by rw [← src hx, ← src hy, e])

theorem stage_type_unique {g : Graph} {ns : List NodeKind} {S : Nat → Nat → EType → Prop} (h : Stage g ns S)
    {u v : Nat} {t t' : EType} (h1 : S u v t) (h2 : S u v t') : t = t' := by
  -- the successor ids of `u` are pairwise different, so two entries for `v` are one entry
  have k : (g.adj.getD u []).Pairwise (fun a b => a.1 ≠ b.1) := List.pairwise_map.1 (h.keys u)
  have e : (v, t) = (v, t') :=
    List.Pairwise.forall_of_forall_of_flip (R := fun a b : Nat × EType => a.1 = b.1 → a = b) (fun _ _ _ => rfl)
      (k.imp fun hne e => absurd e hne) (k.imp fun hne e => absurd e.symm hne)
      ((h.edges u v t).2 h1) ((h.edges u v t').2 h2) rfl
  exact congrArg Prod.snd e

end JS
