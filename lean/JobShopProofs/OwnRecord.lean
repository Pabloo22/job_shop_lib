import JobShopProofs.Properties.C11World
/-!
# Observers that write only their own record, in every reachable feature world

The history observer and the two reward observers are never written by anybody else: constructors keep every existing entry
(`step_ctor`), the callbacks of tunable observers rewrite tunable observers only (`callReset_edits`), every other callback writes
the record it is called on (`callReset_own`, `callUpdate_eq`).  So a property `OK s o` of such an observer `o` and the dispatcher
state `s` holds in every reachable world once it holds of a freshly constructed observer and of a reset one in the initial state,
and one notification carries it across an accepted dispatch: `own_record_run`.
-/
namespace JS

variable {c : Cfg} {T : FKind → Prop} {OK : State → FObs → Prop}

/-- the subscribers are all the heap entries (no `unsubscribe` among the events), and `OK` holds of every tracked observer -/
structure OwnInv (T : FKind → Prop) (OK : State → FObs → Prop) (w : FWorld) : Prop where
  rng : w.subs = List.range w.heap.length
  ok : ∀ (k : Nat) (o : FObs), w.heap[k]? = some o → T o.kind → OK w.s o

theorem range_append_range' (n m : Nat) : List.range n ++ List.range' n m = List.range (n + m) := by
  rw [List.range_eq_range', List.range_eq_range']
  simpa using List.range'_append_1 (s := 0) (m := n) (n := m)

theorem Edits.range {N : FObs → Prop} {lo : Nat} {w w' : FWorld} (e : Edits N lo w w')
    (h : w.subs = List.range w.heap.length) : w'.subs = List.range w'.heap.length := by
  rw [e.subs, h, range_append_range', Nat.add_sub_cancel' e.len]

theorem ownInv_ctor (hT : ∀ k, T k → k.tunable = false) (hnew : ∀ (w : FWorld) (o : FObs), w.s = init c.I → OwnObs w o → T o.kind → OK (init c.I) o)
    {w : FWorld} (h : OwnInv T OK w) (hs : w.s = init c.I) (e : FEv) (he : e.isCtor = true) : OwnInv T OK (w.step e) := by
  obtain ⟨h1, h2, h3, h4, h5, h6⟩ := step_ctor w e (fun j p m h => by rw [h] at he; cases he) (fun h => by rw [h] at he; cases he)
  refine ⟨by rw [h4, h.rng, range_append_range', Nat.add_sub_cancel' h3], fun k o' ho' hk => ?_⟩
  rw [h2]
  by_cases hlt : k < w.heap.length
  · rw [h5 k _ (List.getElem?_eq_getElem hlt)] at ho'
    cases ho'
    exact h.ok k _ (List.getElem?_eq_getElem hlt) hk
  · rcases h6 k o' (Nat.le_of_not_lt hlt) ho' with ht | hn
    · rw [hT _ hk] at ht; cases ht
    · rw [hs]; exact hnew w o' hs hn hk

/-- the loop of `Dispatcher.reset` over the subscribers `l`: a tracked observer is `OK` for the initial state, or it is an
entry of the world the loop started from whose turn has not come -/
theorem ownInv_fold_callReset (hT : ∀ k, T k → k.tunable = false)
    (hreset : ∀ (w : FWorld) (o : FObs), w.s = init c.I → T o.kind → OK (init c.I) (resetOwn w o)) :
    ∀ (l : List Nat) (w : FWorld), (∀ id ∈ l, id ∈ w.subs) → w.s = init c.I →
      (l.foldl (fun w id => w.callReset id) w).s = init c.I ∧
      ∀ (k : Nat) (o' : FObs), (l.foldl (fun w id => w.callReset id) w).heap[k]? = some o' → T o'.kind →
        OK (init c.I) o' ∨ (k ∉ l ∧ w.heap[k]? = some o')
  | [], w, _, hs => ⟨hs, fun k o' ho' _ => Or.inr ⟨List.not_mem_nil, ho'⟩⟩
  | a :: t, w, hl, hs => by
    simp only [List.foldl_cons]
    have ha := hl a (List.mem_cons_self ..)
    -- one callback: the state stays, and a tracked entry is reset or was there unchanged
    have one : (w.callReset a).s = w.s ∧ ∀ (k : Nat) (o' : FObs), (w.callReset a).heap[k]? = some o' → T o'.kind →
        OK (init c.I) o' ∨ (k ≠ a ∧ w.heap[k]? = some o') := by
      cases ho : w.heap[a]? with
      | none =>
        rw [callReset_none ho]
        exact ⟨rfl, fun k o' ho' _ => Or.inr ⟨fun h => (by rw [h, ho] at ho'; cases ho'), ho'⟩⟩
      | some o =>
        cases ht : o.kind.tunable with
        | true =>
          have e := callReset_edits ha ho ht
          refine ⟨e.s, fun k o' ho' hk => Or.inr ?_⟩
          have hlt : k < w.heap.length := by
            refine Nat.lt_of_not_le fun hn => ?_
            obtain ⟨x, hx, r⟩ := e.new hn ho'
            have : o'.kind.tunable = true := by
              rcases r with rfl | r
              · exact hx.tunable
              · exact r.tunable
            rw [hT _ hk] at this; cases this
          obtain ⟨o2, h2, r⟩ := e.old (List.getElem?_eq_getElem hlt)
          rw [ho'] at h2; cases h2
          rcases r with rfl | ⟨_, r⟩
          · refine ⟨fun h => ?_, List.getElem?_eq_getElem hlt⟩
            subst h
            rw [List.getElem?_eq_getElem hlt] at ho; cases ho
            rw [hT _ hk] at ht; cases ht
          · have := r.tunable; rw [hT _ hk] at this; cases this
        | false =>
          rw [callReset_own ho ht]
          refine ⟨rfl, fun k o' ho' hk => ?_⟩
          by_cases hka : a = k
          · subst hka
            simp only [FWorld.setObs, List.getElem?_set_self (List.getElem?_eq_some_iff.1 ho).1] at ho'
            cases ho'
            exact Or.inl (hreset w o hs (resetOwn_kind w o ▸ hk))
          · simp only [FWorld.setObs] at ho'
            rw [List.getElem?_set_ne hka] at ho'
            exact Or.inr ⟨fun h => hka h.symm, ho'⟩
    obtain ⟨s1, r1⟩ := one
    obtain ⟨s2, r2⟩ := ownInv_fold_callReset hT hreset t (w.callReset a)
      (fun id hid => callReset_mem_subs ha (hl id (List.mem_cons_of_mem _ hid))) (s1.trans hs)
    refine ⟨s2, fun k o' ho' hk => ?_⟩
    rcases r2 k o' ho' hk with h | ⟨hkt, h⟩
    · exact Or.inl h
    · rcases r1 k o' h hk with h' | ⟨hka, h'⟩
      · exact Or.inl h'
      · exact Or.inr ⟨fun hm => by rcases List.mem_cons.1 hm with rfl | hm; exact hka rfl; exact hkt hm, h'⟩

theorem reset_range {w : FWorld} (h : w.subs = List.range w.heap.length) : w.reset.subs = List.range w.reset.heap.length := by
  refine foldl_subs (P := fun w => w.subs = List.range w.heap.length) (fun _ _ _ => callReset_mem_subs)
    (fun (w : FWorld) id hid hw => ?_) w.subs { w with s := JS.init w.cfg.I } (fun _ h => h) h
  cases ho : w.heap[id]? with
  | none => rw [callReset_none ho]; exact hw
  | some o =>
    cases ht : o.kind.tunable with
    | true => exact (callReset_edits hid ho ht).range hw
    | false => rw [callReset_own ho ht]; simpa [FWorld.setObs] using hw

theorem ownInv_reset (hT : ∀ k, T k → k.tunable = false)
    (hreset : ∀ (w : FWorld) (o : FObs), w.s = init c.I → T o.kind → OK (init c.I) (resetOwn w o)) {w : FWorld} (hc : w.cfg = c)
    (h : OwnInv T OK w) : OwnInv T OK w.reset := by
  obtain ⟨hs, hr⟩ := ownInv_fold_callReset hT hreset w.subs { w with s := JS.init w.cfg.I } (fun _ h => h) (by rw [hc])
  refine ⟨reset_range h.rng, fun k o' ho' hk => ?_⟩
  show OK (w.subs.foldl (fun (w : FWorld) id => w.callReset id) { w with s := JS.init w.cfg.I }).s o'
  rw [hs]
  rcases hr k o' ho' hk with h1 | ⟨hn, h1⟩
  · exact h1
  · exact absurd (by rw [h.rng]; exact List.mem_range.2 (List.getElem?_eq_some_iff.1 h1).1) hn

/-- what a dispatch request does to a subscribed observer: nothing if the request is rejected; otherwise the dispatcher moves to
the new state `s'` and the observer is notified exactly once, with the new entry (`fold_callUpdate_at`) -/
theorem dispatch_at {w : FWorld} (hv : Valid w.cfg.I) (hs : SubsOK w) (hr : ∃ evs, w.s = run w.cfg evs) {id : Nat} {o : FObs}
    (hid : id ∈ w.subs) (ho : w.heap[id]? = some o) (j p : Nat) (m : Option Int) :
    ((w.dispatch j p m).1 = w ∨ ∃ (s' : State) (mm : Nat) (op : Op) (hp : List FObs), Inv w.cfg w.s ∧
      dispatchReq w.cfg.I w.s j p m = .ok s' ∧ dispatch w.cfg.I w.s j p mm = .ok s' ∧
      newEntry w.s j p mm op ∈ s'.sched.flatten ∧ (w.dispatch j p m).1.s = s' ∧
      (w.dispatch j p m).1.heap[id]? = some (updObs w.cfg s' (newEntry w.s j p mm op) hp o)) := by
  obtain ⟨evs, hevs⟩ := hr
  have hi : Inv w.cfg w.s := by rw [hevs]; exact inv_run hv evs
  rcases w.dispatch_cases hv hi.cinv j p m with h | ⟨s', mm, op, hdr, hdd, hsp, h⟩
  · exact Or.inl (congrArg Prod.fst h)
  · rw [h]
    obtain ⟨_, f2, _, _, _, f6⟩ := fold_callUpdate_at (newEntry w.s j p mm op) w.subs { w with s := s' } hs.nodup
    obtain ⟨hp, hhp⟩ := f6 id hid o ho
    exact Or.inr ⟨s', mm, op, hp, hi, hdr, hdd, (hsp.mem_flatten hi.cinv.wf _).2 (.inr rfl), f2, hhp⟩

theorem ownInv_dispatch (hv : Valid c.I)
    (hupd : ∀ {s s' : State} {j p : Nat} {m : Option Int} {mm : Nat} {op : Op}, Inv c s → dispatchReq c.I s j p m = .ok s' →
      dispatch c.I s j p mm = .ok s' → newEntry s j p mm op ∈ s'.sched.flatten → ∀ (hp : List FObs) (o : FObs),
      OK s o → T o.kind → OK s' (updObs c s' (newEntry s j p mm op) hp o))
    {w : FWorld} (hc : w.cfg = c) (hf : FInv w) (h : OwnInv T OK w) (j p : Nat) (m : Option Int) :
    OwnInv T OK (w.dispatch j p m).1 := by
  subst hc
  obtain ⟨f1, f4, _⟩ := dispatch_shell w j p m
  refine ⟨by rw [f1, f4]; exact h.rng, fun k o' ho' hk => ?_⟩
  have hlt : k < w.heap.length := f4 ▸ (List.getElem?_eq_some_iff.1 ho').1
  rcases dispatch_at hv hf.subs hf.reach (by rw [h.rng]; exact List.mem_range.2 hlt) (List.getElem?_eq_getElem hlt) j p m with
    he | ⟨s', mm, op, hp, hi, hdr, hdd, hx, hs', hhp⟩
  · rw [he] at ho' ⊢; exact h.ok k o' ho' hk
  · rw [hhp] at ho'
    cases ho'
    rw [hs']
    rw [updObs_kind] at hk
    exact hupd hi hdr hdd hx hp _ (h.ok k _ (List.getElem?_eq_getElem hlt) hk) hk

theorem own_record_run (hv : Valid c.I) (hF : c.F = none ∨ PosDurI c.I) (hT : ∀ k, T k → k.tunable = false)
    (hnew : ∀ (w : FWorld) (o : FObs), w.s = init c.I → OwnObs w o → T o.kind → OK (init c.I) o)
    (hreset : ∀ (w : FWorld) (o : FObs), w.s = init c.I → T o.kind → OK (init c.I) (resetOwn w o))
    (hupd : ∀ {s s' : State} {j p : Nat} {m : Option Int} {mm : Nat} {op : Op}, Inv c s → dispatchReq c.I s j p m = .ok s' →
      dispatch c.I s j p mm = .ok s' → newEntry s j p mm op ∈ s'.sched.flatten → ∀ (hp : List FObs) (o : FObs),
      OK s o → T o.kind → OK s' (updObs c s' (newEntry s j p mm op) hp o))
    {w : FWorld} (hw : Reached c w) (k : Nat) (o : FObs) (ho : w.heap[k]? = some o) (hk : T o.kind) : OK w.s o := by
  obtain ⟨ctors, evs, hct, hnd, hev, rfl⟩ := hw.ex
  exact (run_induct c hv hF (P := OwnInv T OK) ⟨rfl, fun k o h => by simp [FWorld.init] at h⟩
    (fun w e _ _ hs h he _ => ownInv_ctor hT hnew h hs e he)
    (fun w j p m hc hf h => ownInv_dispatch hv hupd hc hf h j p m)
    (fun w hc _ h => ownInv_reset hT hreset hc h) ctors evs hct hnd hev).2.2.ok k o ho hk

end JS
