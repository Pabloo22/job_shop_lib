import JobShopProofs.FeatureWorld
/-!
# C12 — a reset, at any point of any history, gives back the freshly constructed world

`C12_fresh_fixpoint`: resetting the freshly constructed world changes nothing.  `C12_reset_forgets`: the reset world
does not depend on what happened since construction.  `C12_world`: both together.

The constructors leave every observer a fixed point of its own `reset()` (`XInv`); dispatch requests change no static field
(`SRel`); and a `reset()` callback computes the new record from static fields alone, so that in a world statically
equivalent to the constructed one it writes the record the constructed world holds (`reset_fresh`).
-/
namespace JS
namespace RF

open FWReset (EstSh icFinal)

theorem setObs_self {w : FWorld} {id : Nat} {o : FObs} (h : w.heap[id]? = some o) : w.setObs id o = w := by
  refine world_ext (w := w.setObs id o) (w' := w) rfl rfl rfl ?_
  simp only [FWorld.setObs]
  apply List.ext_getElem?
  intro i
  by_cases hi : id = i
  · subst hi
    have hlt : id < w.heap.length := (List.getElem?_eq_some_iff.1 h).1
    rw [List.getElem?_set_self hlt, h]
  · rw [List.getElem?_set_ne hi]

theorem setObs_setObs (w : FWorld) (id : Nat) (a b : FObs) : (w.setObs id a).setObs id b = w.setObs id b := by
  simp only [FWorld.setObs, List.set_set]

/-- `o` without its feature columns: what the column-writing helpers leave alone -/
def nc (o : FObs) : FObs := { o with cols := [] }

/-- the fields a dispatch or a reset cannot change, by kind (the others are blanked) -/
def stat (o : FObs) : FObs :=
  match o.kind with
  | .isReady | .duration | .isScheduled | .positionInJob | .remainingOps => { o with cols := [] }
  | .earliestStart => { o with cols := [], est := [] }
  | .isCompleted => { o with cols := [], remJob := if o.has .jobs then [] else o.remJob,
                             remMach := if o.has .machines then [] else o.remMach }
  | .composite => { o with cols := [], fts := [] }
  | .unscheduled => { o with deques := [] }
  | .history => { o with hist := [] }
  | .makespanReward => { o with rewards := [], curMakespan := 0 }
  | .idleReward => { o with rewards := [] }
  | .residual => { o with graph := {} }

theorem stat_kind (o : FObs) : (stat o).kind = o.kind := by
  unfold stat; split <;> rfl

theorem stat_parts (o : FObs) : (stat o).parts = o.parts := by
  unfold stat; split <;> rfl

theorem stat_fts (o : FObs) (h : o.kind ≠ .composite) : (stat o).fts = o.fts := by
  unfold stat; split <;> first | rfl | (rename_i hk; exact absurd hk h)

theorem kind_of_stat {o o' : FObs} (h : stat o = stat o') : o.kind = o'.kind := by
  rw [← stat_kind o, ← stat_kind o', h]

theorem parts_of_stat {o o' : FObs} (h : stat o = stat o') : o.parts = o'.parts := by
  rw [← stat_parts o, ← stat_parts o', h]

theorem fts_of_stat {o o' : FObs} (h : stat o = stat o') (hk : o.kind ≠ .composite) : o.fts = o'.fts := by
  rw [← stat_fts o hk, ← stat_fts o' (kind_of_stat h ▸ hk), h]

/-- static equivalence of the entries at index `k` of two worlds -/
def SEq (c : Cfg) (k : Nat) (o o' : FObs) : Prop :=
  stat o = stat o' ∧ (o.kind = .earliestStart → EstSh c.I o.est ∧ EstSh c.I o'.est) ∧
  (o.kind = .composite → ∀ i ∈ o.parts, i < k)

theorem SEq.kind {c : Cfg} {k : Nat} {o o' : FObs} (h : SEq c k o o') : o.kind = o'.kind := kind_of_stat h.1

theorem seq_self {c : Cfg} {k : Nat} {x : FObs} (h1 : x.kind = .earliestStart → EstSh c.I x.est)
    (h2 : x.kind = .composite → ∀ i ∈ x.parts, i < k) : SEq c k x x :=
  ⟨rfl, fun h => ⟨h1 h, h1 h⟩, h2⟩

theorem nc_setCol (o : FObs) (ft : FT) (col : List Int) : nc (o.setCol ft col) = nc o := rfl
theorem nc_zeroed (I : Instance) (o : FObs) : nc (o.zeroed I) = nc o := rfl

theorem nc_foldl {α} (f : FObs → α → FObs) (hf : ∀ o a, nc (f o a) = nc o) : ∀ (l : List α) (o : FObs),
    nc (l.foldl f o) = nc o
  | [], _ => rfl
  | a :: t, o => by simp only [List.foldl_cons]; rw [nc_foldl f hf t, hf]

theorem nc_assignCols (o : FObs) (g : FObs → FT → List Int) : nc (o.assignCols g) = nc o :=
  assignCols_keep nc (fun _ _ _ => rfl) o g

theorem zeroed_of_nc {o o' : FObs} (I : Instance) (h : nc o = nc o') : o.zeroed I = o'.zeroed I :=
  congrArg (fun x => x.zeroed I) h

theorem nc_isReadyFeatures (c : Cfg) (s : State) (o : FObs) : nc (isReadyFeatures c s o) = nc o := by
  unfold isReadyFeatures; rw [nc_assignCols]; rfl

theorem nc_estFeatures (c : Cfg) (s : State) (o : FObs) : nc (estFeatures c s o) = nc o := nc_assignCols _ _
theorem nc_durationInit (c : Cfg) (s : State) (o : FObs) : nc (durationInit c s o) = nc o := nc_assignCols _ _
theorem nc_durationUpdate (c : Cfg) (s : State) (x : SOp) (o : FObs) : nc (durationUpdate c s x o) = nc o :=
  nc_assignCols _ _
theorem nc_isScheduledUpdate (c : Cfg) (s : State) (x : SOp) (o : FObs) : nc (isScheduledUpdate c s x o) = nc o :=
  nc_assignCols _ _

theorem nc_positionInit (c : Cfg) (s : State) (o : FObs) : nc (positionInit c s o) = nc o := by
  unfold positionInit; split <;> rfl

theorem nc_positionUpdate (c : Cfg) (x : SOp) (o : FObs) : nc (positionUpdate c x o) = nc o := by
  unfold positionUpdate; split <;> rfl

theorem nc_ite {b : Bool} {o o1 : FObs} (h : nc o1 = nc o) : nc (if b = true then o1 else o) = nc o := by
  cases b
  · rfl
  · exact h

theorem nc_remainingInit (c : Cfg) (d : List (List OpRef)) (o : FObs) : nc (remainingInit c d o) = nc o := by
  refine nc_foldl _ (fun o r => ?_) _ _
  dsimp only
  refine (nc_ite ?_).trans (nc_ite ?_)
  · split <;> rfl
  · rfl

theorem nc_remainingUpdate (x : SOp) (o : FObs) : nc (remainingUpdate x o) = nc o := by
  unfold remainingUpdate
  dsimp only
  refine (nc_ite ?_).trans (nc_ite ?_) <;> rfl

theorem kind_of_nc {o o' : FObs} (h : nc o = nc o') : o.kind = o'.kind := by
  show (nc o).kind = (nc o').kind; rw [h]
theorem fts_of_nc {o o' : FObs} (h : nc o = nc o') : o.fts = o'.fts := by
  show (nc o).fts = (nc o').fts; rw [h]
theorem est_of_nc {o o' : FObs} (h : nc o = nc o') : o.est = o'.est := by
  show (nc o).est = (nc o').est; rw [h]

theorem stat_of_nc {o o' : FObs} (hk : o.kind.isFeature = true) (h : nc o = nc o') : stat o = stat o' := by
  have e : ∀ x : FObs, x.kind.isFeature = true → stat x = stat (nc x) := by
    intro x hx
    unfold stat
    cases hkx : x.kind <;> rw [hkx] at hx <;> first | exact absurd hx (by decide) | (simp only [nc, hkx]; try rfl)
  rw [e o hk, e o' (kind_of_nc h ▸ hk), h]

theorem stat_isCompleted {o : FObs} (hk : o.kind = .isCompleted) :
    stat o = { o with cols := [], remJob := if o.has .jobs then [] else o.remJob,
                      remMach := if o.has .machines then [] else o.remMach } := by
  unfold stat; simp only [hk]

theorem stat_icMach (ms : List Nat) {o : FObs} (hk : o.kind = .isCompleted) : stat (icMach ms o) = stat o := by
  unfold icMach
  split
  · rename_i hh
    rw [stat_isCompleted hk, stat_isCompleted (by exact hk)]
    have h2 : o.has .machines = true := hh
    simp only [FObs.has] at h2 ⊢
    simp only [FObs.setCol, h2, if_true]
    rfl
  · rfl

theorem stat_icJobs (x : SOp) {o : FObs} (hk : o.kind = .isCompleted) : stat (icJobs x o) = stat o := by
  unfold icJobs
  split
  · rename_i hh
    rw [stat_isCompleted hk, stat_isCompleted (by exact hk)]
    have h2 : o.has .jobs = true := hh
    simp only [FObs.has] at h2 ⊢
    simp only [FObs.setCol, h2, if_true]
    rfl
  · rfl

theorem nc_icOps (c : Cfg) (s : State) (o : FObs) : nc (icOps c s o) = nc o := by
  unfold icOps; split <;> rfl

theorem kind_icMach (ms : List Nat) (o : FObs) : (icMach ms o).kind = o.kind := by
  unfold icMach; split <;> rfl

theorem stat_ic (c : Cfg) (s : State) (x : SOp) (ms : List Nat) {o : FObs} (hk : o.kind = .isCompleted) :
    stat (icJobs x (icMach ms (icOps c s o))) = stat o := by
  have k1 : (icOps c s o).kind = .isCompleted := (kind_of_nc (nc_icOps c s o)).trans hk
  have k2 : (icMach ms (icOps c s o)).kind = .isCompleted := (kind_icMach _ _).trans k1
  rw [stat_icJobs x k2, stat_icMach _ k1]
  exact stat_of_nc (by rw [k1]; rfl) (nc_icOps c s o)

theorem stat_updObs (c : Cfg) (s : State) (x : SOp) (hp : List FObs) (o : FObs) :
    stat (updObs c s x hp o) = stat o := by
  have plain : ∀ {o' : FObs}, o.kind.isFeature = true → nc o' = nc o → stat o' = stat o := fun hk h =>
    (stat_of_nc hk h.symm).symm
  unfold updObs
  split
  · rename_i hk; exact plain (by rw [hk]; rfl) (nc_isReadyFeatures c s o)
  · rename_i hk
    have h1 := nc_estFeatures c s { o with est := estCompute c.I s o.est }
    rw [stat_of_nc (by rw [kind_of_nc h1]; show o.kind.isFeature = true; rw [hk]; rfl) h1]
    unfold stat
    simp only [hk]
  · rename_i hk; exact plain (by rw [hk]; rfl) (nc_durationUpdate c s x o)
  · rename_i hk; exact plain (by rw [hk]; rfl) (nc_isScheduledUpdate c s x o)
  · rename_i hk; exact plain (by rw [hk]; rfl) (nc_positionUpdate c x o)
  · rename_i hk; exact plain (by rw [hk]; rfl) (nc_remainingUpdate x o)
  · rename_i hk; rw [isCompletedUpdate_eq]; exact stat_ic c s x _ hk
  all_goals (rename_i hk; unfold stat; simp only [hk])

theorem updObs_est (c : Cfg) (s : State) (x : SOp) (hp : List FObs) {o : FObs} (hk : o.kind = .earliestStart) :
    (updObs c s x hp o).est = estCompute c.I s o.est := by
  have e : updObs c s x hp o = estFeatures c s { o with est := estCompute c.I s o.est } := by simp only [updObs, hk]
  rw [e]
  exact est_of_nc (nc_estFeatures c s _)

theorem estSh_compute (I : Instance) (s : State) {est : List (List Int)} (h : EstSh I est) : EstSh I (estCompute I s est) := by
  have := estCompute_spec I s est h
  exact ⟨this.1, this.2.1⟩

theorem seq_updObs {c : Cfg} {k : Nat} {o o' : FObs} (s : State) (x : SOp) (hp : List FObs) (h : SEq c k o o') :
    SEq c k (updObs c s x hp o) o' := by
  have hst := stat_updObs c s x hp o
  have hkind : (updObs c s x hp o).kind = o.kind := kind_of_stat hst
  refine ⟨hst.trans h.1, ?_, ?_⟩
  · intro hk
    rw [hkind] at hk
    obtain ⟨a, b⟩ := h.2.1 hk
    rw [updObs_est c s x hp hk]
    exact ⟨estSh_compute c.I s a, b⟩
  · intro hk
    rw [hkind] at hk
    rw [parts_of_stat hst]
    exact h.2.2 hk

/-- `w` (the constructed world after some dispatch requests) against `w'` (the constructed world): same subscribers, everyone
subscribed, statically equivalent observers at every index -/
structure SRel (c : Cfg) (w w' : FWorld) : Prop where
  cfg : w.cfg = c
  cfg' : w'.cfg = c
  subs : w.subs = w'.subs
  len : w.heap.length = w'.heap.length
  full : w'.subs = List.range w'.heap.length
  ent : ∀ k o o', w.heap[k]? = some o → w'.heap[k]? = some o' → SEq c k o o'

theorem srel_dispatch {c : Cfg} {w w' : FWorld} (h : SRel c w w') (j p : Nat) (m : Option Int) :
    SRel c (w.dispatch j p m).1 w' := by
  unfold FWorld.dispatch
  cases hdr : dispatchReq w.cfg.I w.s j p m with
  | error e => exact h
  | ok s' =>
    simp only
    cases (s'.sched.flatten.find? fun x => x.job == j && x.pos == p) with
    | none => exact ⟨h.cfg, h.cfg', h.subs, h.len, h.full, h.ent⟩
    | some x =>
      simp only
      have hnd : w.subs.Nodup := by rw [h.subs, h.full]; exact List.nodup_range
      obtain ⟨f1, f2, f3, f4, f5, f6⟩ := fold_callUpdate_at x w.subs { w with s := s' } hnd
      refine ⟨f3.trans h.cfg, h.cfg', f1.trans h.subs, f4.trans h.len, h.full, ?_⟩
      intro k o o' ho ho'
      by_cases hk : k ∈ w.subs
      · have hlt : k < w.heap.length := by rw [h.len]; exact heap_lt ho'
        obtain ⟨hp, hhp⟩ := f6 k hk _ (List.getElem?_eq_getElem hlt)
        rw [hhp] at ho
        cases ho
        have hc : w.cfg = c := h.cfg
        subst hc
        exact seq_updObs _ _ _ (h.ent k _ o' (List.getElem?_eq_getElem hlt) ho')
      · rw [f5 k hk] at ho
        exact h.ent k o o' ho ho'

theorem of_stat {α} (F : FObs → α) {o o' : FObs} (h : stat o = stat o')
    (hF : ∀ x : FObs, x.kind = o.kind → F (stat x) = F x) : F o = F o' := by
  rw [← hF o rfl, h, hF o' (kind_of_stat h).symm]

theorem zeroed_congr (I : Instance) {o o' : FObs} (h : stat o = stat o') (hk : o.kind = .remainingOps) :
    o.zeroed I = o'.zeroed I :=
  of_stat (·.zeroed I) h fun x hx => by
    obtain ⟨k⟩ := x
    cases hx.trans hk
    rfl

theorem unsched_full_congr (I : Instance) {u u' : FObs} (h : stat u = stat u') (hk : u.kind = .unscheduled) :
    ({ u with deques := fullDequesF I } : FObs) = { u' with deques := fullDequesF I } :=
  of_stat (fun x : FObs => ({ x with deques := fullDequesF I } : FObs)) h fun x hx => by
    obtain ⟨k⟩ := x
    cases hx.trans hk
    rfl

theorem icFinal_congr (I : Instance) (rj rm : List Int) {o o' : FObs} (h : stat o = stat o') (hk : o.kind = .isCompleted) :
    icFinal I rj rm o = icFinal I rj rm o' :=
  of_stat (icFinal I rj rm) h fun x hx => by
    obtain ⟨k, fts⟩ := x
    cases hx.trans hk
    unfold icFinal stat FObs.zeroed FObs.has
    simp only
    cases fts.contains .jobs <;> cases fts.contains .machines <;> rfl

theorem isCompletedInit_found {w : FWorld} {id rid : Nat} {o r : FObs} (ho : w.heap[id]? = some o)
    (hf : (w.setObs id (o.zeroed w.cfg.I)).findObs .remainingOps (o.fts.filter (· != .operations)) = some rid)
    (hr : w.heap[rid]? = some r) (hne : id ≠ rid) :
    w.isCompletedInit id = w.setObs id (icFinal w.cfg.I (r.col .jobs) (r.col .machines) o) := by
  have hg : (w.setObs id (o.zeroed w.cfg.I), rid) =
      (w.setObs id (o.zeroed w.cfg.I)).getRemaining ((o.zeroed w.cfg.I).fts.filter (· != .operations)) := by
    unfold FWorld.getRemaining
    rw [show (o.zeroed w.cfg.I).fts = o.fts from rfl, hf]
  rw [(FWReset.isCompletedInit_eq ho _ hg (r := r) (by rw [setObs_heap_ne w hne]; exact hr)).2, setObs_setObs]

/-- what `reset()` leaves in an observer that has no helper (`heap`: what a composite reads) -/
def resetLocal (c : Cfg) (s : State) (heap : List FObs) (o : FObs) : FObs :=
  match o.kind with
  | .isReady => isReadyFeatures c s o
  | .earliestStart => estFeatures c s (({ o with est := estCompute c.I s o.est } : FObs).zeroed c.I)
  | .duration => durationInit c s (o.zeroed c.I)
  | .isScheduled => o.zeroed c.I
  | .positionInJob => positionInit c s (o.zeroed c.I)
  | .composite => { o with cols := compositeCols heap o.parts, fts := (compositeCols heap o.parts).map (·.1) }
  | .unscheduled => { o with deques := fullDequesF c.I }
  | .history => { o with hist := [] }
  | .makespanReward => { o with rewards := [], curMakespan := makespan s }
  | .idleReward => { o with rewards := [] }
  | .residual => { o with graph := o.graph0 }
  | _ => o

theorem resetLocal_earliestStart (c : Cfg) (s : State) (heap : List FObs) {o : FObs} (hk : o.kind = .earliestStart) :
    resetLocal c s heap o = estFeatures c s (({ o with est := estCompute c.I s o.est } : FObs).zeroed c.I) := by
  unfold resetLocal; simp only [hk]
theorem resetLocal_composite (c : Cfg) (s : State) (heap : List FObs) {o : FObs} (hk : o.kind = .composite) :
    resetLocal c s heap o = { o with cols := compositeCols heap o.parts, fts := (compositeCols heap o.parts).map (·.1) } := by
  unfold resetLocal; simp only [hk]
theorem resetLocal_unscheduled (c : Cfg) (s : State) (heap : List FObs) {o : FObs} (hk : o.kind = .unscheduled) :
    resetLocal c s heap o = { o with deques := fullDequesF c.I } := by
  unfold resetLocal; simp only [hk]

theorem callReset_local (w : FWorld) (k : Nat) (o : FObs) (ho : w.heap[k]? = some o) (h1 : o.kind ≠ .remainingOps)
    (h2 : o.kind ≠ .isCompleted) : w.callReset k = w.setObs k (resetLocal w.cfg w.s w.heap o) := by
  unfold FWorld.callReset resetLocal
  simp only [ho]
  cases hk : o.kind <;> first | rfl | exact absurd hk h1 | exact absurd hk h2

theorem callReset_remaining (w : FWorld) (k : Nat) (o : FObs) (ho : w.heap[k]? = some o) (hk : o.kind = .remainingOps) :
    w.callReset k = w.resetRemaining k := by
  unfold FWorld.callReset
  simp only [ho, hk]

theorem callReset_isCompleted (w : FWorld) (k : Nat) (o : FObs) (ho : w.heap[k]? = some o) (hk : o.kind = .isCompleted) :
    w.callReset k = ((w.getRemaining (o.fts.filter (· != .operations))).1.resetRemaining
      (w.getRemaining (o.fts.filter (· != .operations))).2).isCompletedInit k := by
  unfold FWorld.callReset
  simp only [ho, hk]

theorem compositeCols_congr {heap heap' : List FObs} {parts : List Nat} (h : ∀ i ∈ parts, heap[i]? = heap'[i]?) :
    compositeCols heap parts = compositeCols heap' parts := by
  have e : (parts.filterMap fun i => heap[i]?) = parts.filterMap fun i => heap'[i]? := by
    induction parts with
    | nil => rfl
    | cons a t ih =>
      simp only [List.filterMap_cons]
      rw [h a (by simp), ih (fun i hi => h i (by simp [hi]))]
  unfold compositeCols
  simp only [e]

theorem resetLocal_heap (c : Cfg) (s : State) (heap heap' : List FObs) {o : FObs} (hk : o.kind ≠ .composite) :
    resetLocal c s heap o = resetLocal c s heap' o := by
  unfold resetLocal
  cases hkk : o.kind <;> first | rfl | exact absurd hkk hk

/-- the earliest start times apart, which are recomputed from the old ones, `reset()` reads static fields only -/
theorem resetLocal_stat (c : Cfg) (s : State) (heap : List FObs) {o : FObs} (h1 : o.kind ≠ .remainingOps)
    (h2 : o.kind ≠ .isCompleted) (h3 : o.kind ≠ .earliestStart) : resetLocal c s heap (stat o) = resetLocal c s heap o := by
  obtain ⟨kind⟩ := o
  cases kind <;> first | rfl | exact absurd rfl h1 | exact absurd rfl h2 | exact absurd rfl h3

theorem resetLocal_of_stat (c : Cfg) (s : State) (heap : List FObs) {o o' : FObs} (h : stat o = stat o')
    (h1 : o.kind ≠ .remainingOps) (h2 : o.kind ≠ .isCompleted) (h3 : o.kind ≠ .earliestStart) :
    resetLocal c s heap o = resetLocal c s heap o' :=
  of_stat (resetLocal c s heap) h fun _ hx => resetLocal_stat c s heap (hx ▸ h1) (hx ▸ h2) (hx ▸ h3)

theorem resetLocal_congr {c : Cfg} (hv : Valid c.I) {k : Nat} {heap heap' : List FObs} {o o' : FObs} (h : SEq c k o o')
    (h1 : o.kind ≠ .remainingOps) (h2 : o.kind ≠ .isCompleted) (hp : ∀ i, i < k → heap[i]? = heap'[i]?) :
    resetLocal c (init c.I) heap o = resetLocal c (init c.I) heap' o' := by
  have hk := h.kind
  by_cases h3 : o.kind = .earliestStart
  · rw [resetLocal_earliestStart _ _ _ h3, resetLocal_earliestStart _ _ _ (hk ▸ h3), estCompute_init c.I hv o.est (h.2.1 h3).1,
      estCompute_init c.I hv o'.est (h.2.1 h3).2]
    exact of_stat (fun x : FObs => estFeatures c (init c.I) (({ x with est := estInitial c.I } : FObs).zeroed c.I)) h.1
      fun x hx => by
        obtain ⟨k⟩ := x
        cases hx.trans h3
        rfl
  · rw [resetLocal_of_stat c _ heap h.1 h1 h2 h3]
    by_cases h4 : o'.kind = .composite
    · rw [resetLocal_composite _ _ _ h4, resetLocal_composite _ _ _ h4,
        compositeCols_congr fun i hi => hp i (h.2.2 (hk.trans h4) i (parts_of_stat h.1 ▸ hi))]
    · exact resetLocal_heap c _ heap heap' h4

/-- a `RemainingOperationsObserver` that `reset()` leaves as it is: its helper is there, not under construction, holds
the full deques, and the observer holds what `initialize_features` computes from them -/
def RemFix (c : Cfg) (w : FWorld) (ex : List Nat) (o : FObs) : Prop :=
  ∃ uid u, w.findObs .unscheduled [] = some uid ∧ uid ∉ ex ∧ w.heap[uid]? = some u ∧
    u.deques = fullDequesF c.I ∧ remainingInit c (fullDequesF c.I) (o.zeroed c.I) = o

/-- observer `o` at index `k` is a fixed point of its `reset()` (`ex`: the observers still under construction) -/
def FixO (c : Cfg) (w : FWorld) (ex : List Nat) (k : Nat) (o : FObs) : Prop :=
  match o.kind with
  | .remainingOps => RemFix c w ex o
  | .isCompleted => ∃ rid r, w.findObs .remainingOps (o.fts.filter (· != .operations)) = some rid ∧ rid ∉ ex ∧
      w.heap[rid]? = some r ∧ RemFix c w ex r ∧ icFinal c.I (r.col .jobs) (r.col .machines) o = o
  | .composite => (∀ i ∈ o.parts, i < k ∧ i ∉ ex) ∧ resetLocal c (init c.I) w.heap o = o
  | .earliestStart => EstSh c.I o.est ∧ resetLocal c (init c.I) w.heap o = o
  | _ => resetLocal c (init c.I) w.heap o = o

theorem fixO_remaining {c : Cfg} {w : FWorld} {ex : List Nat} {k : Nat} {o : FObs} (hk : o.kind = .remainingOps) :
    FixO c w ex k o ↔ RemFix c w ex o := by
  unfold FixO; simp only [hk]

theorem fixO_isCompleted {c : Cfg} {w : FWorld} {ex : List Nat} {k : Nat} {o : FObs} (hk : o.kind = .isCompleted) :
    FixO c w ex k o ↔ ∃ rid r, w.findObs .remainingOps (o.fts.filter (· != .operations)) = some rid ∧ rid ∉ ex ∧
      w.heap[rid]? = some r ∧ RemFix c w ex r ∧ icFinal c.I (r.col .jobs) (r.col .machines) o = o := by
  unfold FixO; simp only [hk]

theorem fixO_composite {c : Cfg} {w : FWorld} {ex : List Nat} {k : Nat} {o : FObs} (hk : o.kind = .composite) :
    FixO c w ex k o ↔ (∀ i ∈ o.parts, i < k ∧ i ∉ ex) ∧ resetLocal c (init c.I) w.heap o = o := by
  unfold FixO; simp only [hk]

theorem fixO_est {c : Cfg} {w : FWorld} {ex : List Nat} {k : Nat} {o : FObs} (hk : o.kind = .earliestStart) :
    FixO c w ex k o ↔ EstSh c.I o.est ∧ resetLocal c (init c.I) w.heap o = o := by
  unfold FixO; simp only [hk]

/-- the kinds whose `reset()` reads nothing but the observer itself and the dispatcher state -/
def localK : FKind → Bool
  | .remainingOps | .isCompleted | .composite | .earliestStart => false
  | _ => true

theorem localK_of_ne {k : FKind} (h1 : k ≠ .remainingOps) (h2 : k ≠ .isCompleted) (h3 : k ≠ .composite)
    (h4 : k ≠ .earliestStart) : localK k = true := by
  cases k <;> first | rfl | exact absurd rfl h1 | exact absurd rfl h2 | exact absurd rfl h3 | exact absurd rfl h4

theorem localK_ne {k : FKind} (h : localK k = true) :
    k ≠ .remainingOps ∧ k ≠ .isCompleted ∧ k ≠ .composite ∧ k ≠ .earliestStart := by
  revert h
  cases k <;> decide

theorem fixO_local {c : Cfg} {w : FWorld} {ex : List Nat} {k : Nat} {o : FObs} (hk : localK o.kind = true) :
    FixO c w ex k o ↔ resetLocal c (init c.I) w.heap o = o := by
  unfold FixO
  cases h : o.kind <;> first | exact Iff.rfl | (rw [h] at hk; cases hk)

theorem remFix_transfer {c : Cfg} {w v : FWorld} {ex ex' : List Nat} {o : FObs} (h : RemFix c w ex o)
    (hfind : ∀ kind need r, kind ≠ .composite → w.findObs kind need = some r → v.findObs kind need = some r)
    (hheap : ∀ i x, i ∉ ex → w.heap[i]? = some x → v.heap[i]? = some x ∧ i ∉ ex') : RemFix c v ex' o := by
  obtain ⟨uid, u, h1, h2, h3, h4, h5⟩ := h
  exact ⟨uid, u, hfind _ _ _ (by decide) h1, (hheap uid u h2 h3).2, (hheap uid u h2 h3).1, h4, h5⟩

theorem fixO_transfer {c : Cfg} {w v : FWorld} {ex ex' : List Nat} {k : Nat} {o : FObs} (h : FixO c w ex k o)
    (hko : w.heap[k]? = some o)
    (hfind : ∀ kind need r, kind ≠ .composite → w.findObs kind need = some r → v.findObs kind need = some r)
    (hheap : ∀ i x, i ∉ ex → w.heap[i]? = some x → v.heap[i]? = some x ∧ i ∉ ex') : FixO c v ex' k o := by
  by_cases h1 : o.kind = .remainingOps
  · rw [fixO_remaining h1] at h ⊢
    exact remFix_transfer h hfind hheap
  by_cases h2 : o.kind = .isCompleted
  · rw [fixO_isCompleted h2] at h ⊢
    obtain ⟨rid, r, a1, a2, a3, a4, a5⟩ := h
    exact ⟨rid, r, hfind _ _ _ (by decide) a1, (hheap rid r a2 a3).2, (hheap rid r a2 a3).1,
      remFix_transfer a4 hfind hheap, a5⟩
  by_cases h3 : o.kind = .composite
  · rw [fixO_composite h3] at h ⊢
    obtain ⟨a1, a2⟩ := h
    have hin : ∀ i ∈ o.parts, ∃ x, w.heap[i]? = some x := by
      intro i hi
      have : i < w.heap.length := Nat.lt_trans (a1 i hi).1 (heap_lt hko)
      exact ⟨_, List.getElem?_eq_getElem this⟩
    refine ⟨fun i hi => ⟨(a1 i hi).1, ?_⟩, ?_⟩
    · obtain ⟨x, hx⟩ := hin i hi
      exact (hheap i x (a1 i hi).2 hx).2
    · rw [resetLocal_composite _ _ _ h3] at a2 ⊢
      have : compositeCols v.heap o.parts = compositeCols w.heap o.parts := by
        apply compositeCols_congr
        intro i hi
        obtain ⟨x, hx⟩ := hin i hi
        rw [hx, (hheap i x (a1 i hi).2 hx).1]
      rw [this]; exact a2
  by_cases h4 : o.kind = .earliestStart
  · rw [fixO_est h4] at h ⊢
    rw [resetLocal_heap c _ v.heap w.heap h3]; exact h
  · rw [fixO_local (localK_of_ne h1 h2 h3 h4)] at h ⊢
    rw [resetLocal_heap c _ v.heap w.heap h3]; exact h

/-- the constructor-time invariant: initial dispatcher state, every observer subscribed, and every observer that is
not under construction is a fixed point of its `reset()` -/
structure XInv (c : Cfg) (w : FWorld) (ex : List Nat) : Prop where
  cfg : w.cfg = c
  s : w.s = init c.I
  full : w.subs = List.range w.heap.length
  exlt : ∀ x ∈ ex, x < w.heap.length
  fix : ∀ k o, k ∉ ex → w.heap[k]? = some o → FixO c w ex k o

theorem XInv.ok {c : Cfg} {w : FWorld} {ex : List Nat} (h : XInv c w ex) : SubsOK w :=
  ⟨by rw [h.full]; exact List.nodup_range, fun id hid => by rw [h.full] at hid; exact List.mem_range.1 hid⟩

theorem findObs_push {w : FWorld} (hok : SubsOK w) (x : FObs) {kind : FKind} {need : List FT}
    {r : Nat} (h : w.findObs kind need = some r) : (w.push x).1.findObs kind need = some r := by
  rw [FWReset.findObs_push_eq hok, h]; rfl

/-- push an observer: either it is a fixed point already, or it is put under construction -/
theorem xinv_push {c : Cfg} {w : FWorld} {ex ex' : List Nat} (h : XInv c w ex) (x : FObs)
    (hsub : ∀ i, i ∈ ex → i ∈ ex') (hex : ∀ i, i ∈ ex' → i ∈ ex ∨ i = w.heap.length)
    (hx : w.heap.length ∉ ex' → FixO c (w.push x).1 ex' w.heap.length x) : XInv c (w.push x).1 ex' := by
  refine ⟨h.cfg, h.s, ?_, ?_, ?_⟩
  · simp only [FWorld.push, h.full, List.length_append, List.length_singleton, List.range_succ]
  · intro i hi
    simp only [FWorld.push, List.length_append, List.length_singleton]
    rcases hex i hi with h1 | h1
    · have := h.exlt i h1; omega
    · omega
  · intro k o hk ho
    rcases push_heap_cases ho with ho | ⟨rfl, rfl⟩
    · refine fixO_transfer (h.fix k o (fun hin => hk (hsub k hin)) ho) ho
        (fun kind need r _ hf => findObs_push h.ok x hf) fun i y hi hy => ?_
      refine ⟨by rw [push_heap_old w x (heap_lt hy)]; exact hy, fun hin => ?_⟩
      rcases hex i hin with h1 | h1
      · exact hi h1
      · exact absurd (h1 ▸ heap_lt hy) (Nat.lt_irrefl _)
    · exact hx hk

theorem xinv_push_done {c : Cfg} {w : FWorld} {ex : List Nat} (h : XInv c w ex) (x : FObs)
    (hx : FixO c (w.push x).1 ex w.heap.length x) : XInv c (w.push x).1 ex :=
  xinv_push h x (fun _ hi => hi) (fun _ hi => Or.inl hi) fun _ => hx

theorem xinv_push_pending {c : Cfg} {w : FWorld} {ex : List Nat} (h : XInv c w ex) (x : FObs) :
    XInv c (w.push x).1 (w.heap.length :: ex) :=
  xinv_push h x (fun _ hi => List.mem_cons_of_mem _ hi) (fun _ hi => (List.mem_cons.1 hi).symm)
    fun hn => absurd (List.mem_cons_self ..) hn

theorem keep_setObs (w : FWorld) (id : Nat) (x : FObs) (ex : List Nat) (i : Nat) (y : FObs) (hi : i ∉ id :: ex)
    (hy : w.heap[i]? = some y) : (w.setObs id x).heap[i]? = some y ∧ i ∉ ex := by
  simp only [List.mem_cons, not_or] at hi
  exact ⟨by rw [setObs_heap_ne w (fun e => hi.1 e.symm)]; exact hy, hi.2⟩

/-- finish (or continue) the construction of the observer `id` -/
theorem xinv_set {c : Cfg} {w : FWorld} {ex : List Nat} {id : Nat} (h : XInv c w (id :: ex)) (x : FObs) {o0 : FObs}
    (h0 : w.heap[id]? = some o0) (hk0 : x.kind = o0.kind) (hf0 : x.fts = o0.fts)
    (hx : id ∉ ex → FixO c (w.setObs id x) ex id x) : XInv c (w.setObs id x) ex := by
  refine ⟨h.cfg, h.s, ?_, ?_, ?_⟩
  · simp only [FWorld.setObs, List.length_set]; exact h.full
  · intro i hi
    simp only [FWorld.setObs, List.length_set]
    exact h.exlt i (by simp [hi])
  · intro k o hk ho
    rcases setObs_heap_cases ho with ⟨rfl, rfl⟩ | ⟨hne, ho⟩
    · exact hx hk
    · exact fixO_transfer (h.fix k o (by simp only [List.mem_cons, not_or]; exact ⟨hne, hk⟩) ho) ho
        (fun kind need r _ hf => (FWReset.findObs_setObs h0 hk0 hf0 kind need).trans hf) (keep_setObs w id x ex)

theorem XInv.congr {c : Cfg} {w : FWorld} {ex ex' : List Nat} (h : XInv c w ex) (he : ∀ i, i ∈ ex ↔ i ∈ ex') :
    XInv c w ex' := by
  refine ⟨h.cfg, h.s, h.full, fun x hx => h.exlt x ((he x).2 hx), ?_⟩
  intro k o hk ho
  exact fixO_transfer (h.fix k o (fun hin => hk ((he k).1 hin)) ho) ho (fun _ _ _ _ hf => hf)
    (fun i y hi hy => ⟨hy, fun hin => hi ((he i).2 hin)⟩)

theorem findObs_push_new {w : FWorld} (hok : SubsOK w) (x : FObs) {kind : FKind} {need : List FT}
    (h : w.findObs kind need = none) (hk : x.kind = kind) (hf : ∀ ft ∈ need, ft ∈ x.fts) :
    (w.push x).1.findObs kind need = some w.heap.length := by
  rw [FWReset.findObs_push_eq hok, h, if_pos (by simpa [hk] using hf)]; rfl

theorem getUnscheduled_x {c : Cfg} {w : FWorld} {ex : List Nat} (h : XInv c w ex)
    (hex : ∀ x ∈ ex, ∀ o, w.heap[x]? = some o → o.kind ≠ .unscheduled) :
    XInv c w.getUnscheduled.1 ex ∧
    ∃ u, w.getUnscheduled.1.findObs .unscheduled [] = some w.getUnscheduled.2 ∧ w.getUnscheduled.2 ∉ ex ∧
      w.getUnscheduled.1.heap[w.getUnscheduled.2]? = some u ∧ u.deques = fullDequesF c.I := by
  unfold FWorld.getUnscheduled
  cases hf : w.findObs .unscheduled [] with
  | some id =>
    obtain ⟨hm, o, ho, hk, _⟩ := findObs_subAt hf
    have hn : id ∉ ex := fun hx => hex id hx o ho hk
    have hfx := h.fix id o hn ho
    rw [fixO_local (by rw [hk]; rfl), resetLocal_unscheduled _ _ _ hk] at hfx
    exact ⟨h, o, hf, hn, ho, (congrArg FObs.deques hfx).symm⟩
  | none =>
    simp only
    rw [h.s, h.cfg, FWReset.init_sched_flatten]
    refine ⟨xinv_push_done h _ ((fixO_local rfl).2 rfl), _,
      findObs_push_new h.ok _ hf rfl (fun _ hft => by cases hft), fun hin => ?_, push_heap_new w _, rfl⟩
    exact absurd (h.exlt _ hin) (Nat.lt_irrefl _)

/-- the common part of `RemainingOperationsObserver(...)` and `newRemaining`: push the zeroed observer, get the helper,
initialise from its deques -/
theorem remFlow_x {c : Cfg} {w : FWorld} {ex : List Nat} (h : XInv c w ex)
    (hex : ∀ x ∈ ex, ∀ o, w.heap[x]? = some o → o.kind ≠ .unscheduled) (b : FObs) (hbk : b.kind = .remainingOps)
    (hbz : b.zeroed c.I = b) :
    XInv c (FWReset.remFlow w b) ex ∧
    ∃ X, (FWReset.remFlow w b).heap[w.heap.length]? = some X ∧ RemFix c (FWReset.remFlow w b) ex X := by
  unfold FWReset.remFlow
  have h1 := xinv_push_pending h b
  have hex1 : ∀ x ∈ w.heap.length :: ex, ∀ o, (w.push b).1.heap[x]? = some o → o.kind ≠ .unscheduled := by
    intro x hx o ho
    rcases push_heap_cases ho with ho | ⟨_, rfl⟩
    · rcases List.mem_cons.1 hx with rfl | hx
      · exact absurd (heap_lt ho) (Nat.lt_irrefl _)
      · exact hex x hx o ho
    · rw [hbk]; decide
  obtain ⟨h2, u, f2, n2, hu, hud⟩ := getUnscheduled_x h1 hex1
  have g2 := getUnscheduled_keep _ (push_heap_new w b)
  generalize (w.push b).1.getUnscheduled = r2 at h2 u f2 n2 hu hud g2
  obtain ⟨w2, uid⟩ := r2
  simp only at h2 f2 n2 hu hud g2 ⊢
  rw [getD_of_get hu, hud, h2.cfg]
  have hne : w.heap.length ≠ uid := fun e => n2 (by rw [← e]; exact List.mem_cons_self ..)
  have hnc := nc_remainingInit c (fullDequesF c.I) b
  have hrf : RemFix c (w2.setObs w.heap.length (remainingInit c (fullDequesF c.I) b)) ex
      (remainingInit c (fullDequesF c.I) b) := by
    refine ⟨uid, u, (FWReset.findObs_setObs g2 (kind_of_nc hnc) (fts_of_nc hnc) _ _).trans f2,
      fun hin => n2 (List.mem_cons_of_mem _ hin), ?_, hud, ?_⟩
    · rw [setObs_heap_ne w2 hne]; exact hu
    · rw [zeroed_of_nc c.I hnc, hbz]
  exact ⟨xinv_set h2 _ g2 (kind_of_nc hnc) (fts_of_nc hnc) fun _ => (fixO_remaining ((kind_of_nc hnc).trans hbk)).2 hrf,
    _, setObs_heap_self (heap_lt g2) _, hrf⟩

theorem getRemaining_x {c : Cfg} {w : FWorld} {ex : List Nat} (h : XInv c w ex)
    (hex : ∀ x ∈ ex, ∀ o, w.heap[x]? = some o → o.kind ≠ .unscheduled ∧ o.kind ≠ .remainingOps) (need : List FT) :
    XInv c (w.getRemaining need).1 ex ∧
    ∃ ro, (w.getRemaining need).2 ∉ ex ∧ (w.getRemaining need).1.heap[(w.getRemaining need).2]? = some ro ∧
      RemFix c (w.getRemaining need).1 ex ro := by
  unfold FWorld.getRemaining
  cases hf : w.findObs .remainingOps need with
  | some id =>
    obtain ⟨hm, o, ho, hk, _⟩ := findObs_subAt hf
    have hn : id ∉ ex := fun hx => (hex id hx o ho).2 hk
    exact ⟨h, o, hn, ho, (fixO_remaining hk).1 (h.fix id o hn ho)⟩
  | none =>
    simp only
    rw [FWReset.newRemaining_remFlow, h.cfg]
    obtain ⟨a1, X, a3, a5⟩ := remFlow_x h (fun x hx o ho => (hex x hx o ho).1)
      (({ kind := .remainingOps, fts := need } : FObs).zeroed c.I) rfl rfl
    exact ⟨a1, X, fun hin => absurd (h.exlt _ hin) (Nat.lt_irrefl _), a3, a5⟩

theorem icFinal_idem (I : Instance) (rj rm : List Int) (o : FObs) : icFinal I rj rm (icFinal I rj rm o) = icFinal I rj rm o := by
  unfold icFinal FObs.zeroed FObs.has
  simp only
  cases o.fts.contains .jobs <;> cases o.fts.contains .machines <;> rfl

theorem isCompletedInit_x {c : Cfg} {w : FWorld} {ex : List Nat} {id : Nat} {o0 : FObs} (h : XInv c w (id :: ex))
    (hex : ∀ x ∈ ex, ∀ o, w.heap[x]? = some o → o.kind ≠ .unscheduled ∧ o.kind ≠ .remainingOps)
    (h0 : w.heap[id]? = some o0) (hk0 : o0.kind = .isCompleted) : XInv c (w.isCompletedInit id) ex := by
  obtain rfl := h.cfg
  have h1 : XInv w.cfg (w.setObs id (o0.zeroed w.cfg.I)) (id :: ex) :=
    xinv_set (h.congr (ex' := id :: id :: ex) (fun i => by simp)) _ h0 rfl rfl (fun hn => absurd (List.mem_cons_self ..) hn)
  have hex1 : ∀ x ∈ id :: ex, ∀ o, (w.setObs id (o0.zeroed w.cfg.I)).heap[x]? = some o →
      o.kind ≠ .unscheduled ∧ o.kind ≠ .remainingOps := by
    intro x hx o ho
    rcases setObs_heap_cases ho with ⟨_, rfl⟩ | ⟨hne, ho⟩
    · show o0.kind ≠ _ ∧ o0.kind ≠ _
      rw [hk0]; decide
    · exact hex x ((List.mem_cons.1 hx).resolve_left hne) o ho
  obtain ⟨h2, ro, n2, hr, hrf⟩ := getRemaining_x h1 hex1 ((o0.zeroed w.cfg.I).fts.filter (· != .operations))
  have f2 := FWReset.getRemaining_found h1.ok ((o0.zeroed w.cfg.I).fts.filter (· != .operations))
  obtain ⟨g2, e⟩ := FWReset.isCompletedInit_eq h0 _ rfl hr
  rw [e]
  generalize (w.setObs id (o0.zeroed w.cfg.I)).getRemaining ((o0.zeroed w.cfg.I).fts.filter (· != .operations)) = r2
    at h2 ro f2 n2 hr hrf g2
  obtain ⟨w2, rid⟩ := r2
  simp only at h2 f2 n2 hr hrf g2 ⊢
  have hne : id ≠ rid := fun e => n2 (by rw [← e]; exact List.mem_cons_self ..)
  generalize hx : icFinal w.cfg.I (ro.col .jobs) (ro.col .machines) o0 = x
  have hxk : x.kind = o0.kind := by rw [← hx]; rfl
  have hxf : x.fts = o0.fts := by rw [← hx]; rfl
  refine xinv_set h2 x g2 hxk hxf fun _ => (fixO_isCompleted (hxk.trans hk0)).2
    ⟨rid, ro, ?_, fun hin => n2 (List.mem_cons_of_mem _ hin), ?_, ?_, ?_⟩
  · rw [hxf]
    exact (FWReset.findObs_setObs g2 hxk hxf _ _).trans f2
  · rw [setObs_heap_ne w2 hne]; exact hr
  · exact remFix_transfer hrf (fun kind need r _ hf => (FWReset.findObs_setObs g2 hxk hxf kind need).trans hf)
      (keep_setObs w2 id x ex)
  · rw [← hx]; exact icFinal_idem _ _ _ _

theorem fix_est (c : Cfg) (hv : Valid c.I) (heap : List FObs) (b : FObs) (hk : b.kind = .earliestStart)
    (he : b.est = estInitial c.I) :
    EstSh c.I (estFeatures c (init c.I) (b.zeroed c.I)).est ∧
    resetLocal c (init c.I) heap (estFeatures c (init c.I) (b.zeroed c.I)) = estFeatures c (init c.I) (b.zeroed c.I) := by
  have hnc := nc_estFeatures c (init c.I) (b.zeroed c.I)
  have hest : (estFeatures c (init c.I) (b.zeroed c.I)).est = estInitial c.I := (est_of_nc hnc).trans he
  refine ⟨by rw [hest]; exact estInitial_shape c.I, ?_⟩
  rw [resetLocal_earliestStart _ _ _ ((kind_of_nc hnc).trans hk), hest,
    estCompute_init c.I hv _ (estInitial_shape c.I)]
  have h1 := congrArg (fun y : FObs => (({ y with est := estInitial c.I } : FObs).zeroed c.I)) hnc
  have h2 : (({ (estFeatures c (init c.I) (b.zeroed c.I)) with est := estInitial c.I } : FObs).zeroed c.I) =
      b.zeroed c.I := by
    refine Eq.trans h1 ?_
    show (({ (b.zeroed c.I) with est := estInitial c.I } : FObs).zeroed c.I) = b.zeroed c.I
    rw [← he]
    rfl
  rw [h2]

theorem xinv_push_local {c : Cfg} {w : FWorld} (h : XInv c w []) (x : FObs) (hk : localK x.kind = true)
    (hfix : ∀ heap, resetLocal c (init c.I) heap x = x) : XInv c (w.push x).1 [] :=
  xinv_push_done h x ((fixO_local hk).2 (hfix _))

/-- `x` is what `reset()` makes of `b` and differs from `b` in the columns only; then `reset()` leaves `x` as it is -/
theorem xinv_push_plain {c : Cfg} {w : FWorld} (h : XInv c w []) {b x : FObs} (hl : localK b.kind = true)
    (hf : b.kind.isFeature = true) (hn : nc x = nc b) (hb : ∀ heap, resetLocal c (init c.I) heap b = x) :
    XInv c (w.push x).1 [] := by
  have hk := kind_of_nc hn
  obtain ⟨h1, h2, _, h3⟩ := localK_ne (hk ▸ hl)
  refine xinv_push_local h x (hk ▸ hl) fun heap => ?_
  rw [resetLocal_of_stat c _ heap (stat_of_nc (hk ▸ hf) hn) h1 h2 h3]
  exact hb heap

theorem construct_x {c : Cfg} {w : FWorld} (hv : Valid c.I) (h : XInv c w []) (kind : FKind) (fts : Option (List FT)) :
    XInv c (w.construct kind fts).1 [] := by
  obtain rfl := h.cfg
  refine FWReset.construct_cases (P := fun w' => XInv w.cfg w' []) w kind fts h (xinv_push_local h _ rfl fun heap => ?_)
    (xinv_push_local h _ rfl fun _ => rfl) (xinv_push_local h _ rfl fun heap => ?_) (xinv_push_local h _ rfl fun _ => rfl)
    fun l _ => ?_
  · rw [h.s, FWReset.init_sched_flatten]
    rfl
  · rw [h.s]
    rfl
  rw [h.s]
  refine ⟨?_, ?_, ?_, ?_, ?_, ?_, ?_⟩ <;> rintro rfl
  · exact xinv_push_plain h rfl rfl (nc_isReadyFeatures _ _ _) fun _ => rfl
  · obtain ⟨f1, f2⟩ := fix_est w.cfg hv
      (w.push (estFeatures w.cfg (init w.cfg.I) (baseOf w.cfg.I .earliestStart l))).1.heap
      { kind := .earliestStart, fts := l, est := estInitial w.cfg.I } rfl rfl
    exact xinv_push_done h _ ((fixO_est ((kind_of_nc (nc_estFeatures _ _ _)).trans rfl)).2 ⟨f1, f2⟩)
  · exact xinv_push_plain h rfl rfl (nc_durationInit _ _ _) fun _ => rfl
  · exact xinv_push_local h _ rfl fun _ => rfl
  · exact xinv_push_plain h rfl rfl (nc_positionInit _ _ _) fun _ => rfl
  · exact (remFlow_x h (fun x hx => by cases hx) (baseOf w.cfg.I .remainingOps l) rfl rfl).1
  · exact isCompletedInit_x (xinv_push_pending h _) (fun x hx => by cases hx) (push_heap_new w _) rfl

theorem comp_core {c : Cfg} {w : FWorld} (h : XInv c w []) (ps : List Nat) (hps : ∀ i ∈ ps, i < w.heap.length) :
    XInv c ((w.push { kind := .composite, parts := ps }).1.setObs (w.push { kind := .composite, parts := ps }).2
      { ({ kind := .composite, parts := ps } : FObs) with
        cols := compositeCols (w.push { kind := .composite, parts := ps }).1.heap ps,
        fts := (compositeCols (w.push { kind := .composite, parts := ps }).1.heap ps).map (·.1),
        names := compositeNames (w.push { kind := .composite, parts := ps }).1.heap ps }) [] := by
  rw [push_set]
  refine xinv_push_done h _ ((fixO_composite rfl).2 ?_)
  refine ⟨fun i hi => ⟨hps i hi, by simp⟩, ?_⟩
  rw [resetLocal_composite _ _ _ rfl]
  have hcc : ∀ x y : FObs, compositeCols (w.push x).1.heap ps = compositeCols (w.push y).1.heap ps := by
    intro x y
    apply compositeCols_congr
    intro i hi
    rw [push_heap_old w x (hps i hi), push_heap_old w y (hps i hi)]
  simp only
  rw [hcc _ ({ kind := .composite, parts := ps } : FObs)]

theorem constructComposite_x {c : Cfg} {w : FWorld} (h : XInv c w []) (parts : Option (List Nat))
    (hp : ∀ l, parts = some l → ∀ i ∈ l, i < w.heap.length) : XInv c (w.constructComposite parts).1 [] := by
  cases parts with
  | some l => exact comp_core h l (hp l rfl)
  | none =>
    exact comp_core h (w.subs.filter fun id => match w.heap[id]? with | some o => o.kind.isFeature | none => false)
      (fun i hi => h.ok.valid i (List.mem_filter.1 hi).1)

theorem getIsCompleted_x {c : Cfg} {w : FWorld} (h : XInv c w []) (need : List FT) :
    XInv c (w.getIsCompleted need).1 [] :=
  FWReset.getIsCompleted_cases (P := fun w' => XInv c w' []) w need h
    (isCompletedInit_x (xinv_push_pending h _) (fun x hx => by cases hx) (push_heap_new w _) rfl)

theorem constructResidual_x {c : Cfg} {w : FWorld} (h : XInv c w []) (g : Graph) (rm rj : Bool) :
    XInv c (w.constructResidual g rm rj).1 [] := by
  refine FWReset.constructResidual_cases (P := fun w' => XInv c w' []) w g rm rj h fun w1 parts h1 => ?_
  have x1 : XInv c w1 [] := by
    rcases h1 with rfl | ⟨need, _, rfl⟩
    · exact h
    · exact getIsCompleted_x h need
  exact xinv_push_local x1 _ rfl fun _ => rfl

end RF

/-- well-formed constructor lists: constructor events only, no feature type listed twice, and an explicit composite only
names observers that already exist -/
def CtorsOK : FWorld → List FEv → Prop
  | _, [] => True
  | w, e :: t => e.isCtor = true ∧ e.NodupFts ∧ (∀ l, e = .composite (some l) → ∀ i ∈ l, i < w.heap.length) ∧ CtorsOK (w.step e) t

theorem ctorsOK_flags : ∀ (ctors : List FEv) (w : FWorld), CtorsOK w ctors →
    (∀ e ∈ ctors, e.isCtor = true) ∧ (∀ e ∈ ctors, e.NodupFts)
  | [], _, _ => ⟨fun _ h => (nomatch h), fun _ h => (nomatch h)⟩
  | e :: t, w, hok => by
    obtain ⟨h1, h2, _, h4⟩ := hok
    obtain ⟨i1, i2⟩ := ctorsOK_flags t _ h4
    exact ⟨List.forall_mem_cons.2 ⟨h1, i1⟩, List.forall_mem_cons.2 ⟨h2, i2⟩⟩

namespace RF

theorem srel_of_xinv {c : Cfg} {w : FWorld} (h : XInv c w []) : SRel c w w := by
  refine ⟨h.cfg, h.cfg, rfl, rfl, h.full, ?_⟩
  intro k o o' ho ho'
  rw [ho] at ho'; cases ho'
  have fx := h.fix k o (by simp) ho
  refine seq_self ?_ ?_
  · intro hk
    exact ((fixO_est hk).1 fx).1
  · intro hk i hi
    exact (((fixO_composite hk).1 fx).1 i hi).1

/-! ## a reset leads back to the freshly constructed world

`w0` is the freshly constructed world (`XInv`) and `w` a world statically equivalent to it.  Lookups read static data only,
so in `w` they find the helpers they find in `w0`, and nothing is pushed; and every record a `reset()` callback writes in
`w` is computed from static data, hence is the record that `w0` holds at that place. -/

theorem SRel.get {c : Cfg} {w w' : FWorld} (h : SRel c w w') {k : Nat} {o' : FObs} (ho' : w'.heap[k]? = some o') :
    ∃ o, w.heap[k]? = some o ∧ SEq c k o o' := by
  have hlt : k < w.heap.length := by rw [h.len]; exact heap_lt ho'
  exact ⟨_, List.getElem?_eq_getElem hlt, h.ent k _ o' (List.getElem?_eq_getElem hlt) ho'⟩

/-- lookups only read kinds and (of non-composite observers) feature types -/
theorem SRel.findObs {c : Cfg} {w w' : FWorld} (h : SRel c w w') {kind : FKind} (hk : kind ≠ .composite) (need : List FT) :
    w.findObs kind need = w'.findObs kind need := by
  rw [FWReset.findObs_eq, FWReset.findObs_eq, h.subs]
  apply FWReset.find?_congr'
  intro id hid
  rw [h.full, List.mem_range] at hid
  obtain ⟨o, ho, hs⟩ := h.get (List.getElem?_eq_getElem hid)
  simp only [FWReset.findP, List.getElem?_eq_getElem hid, ho]
  by_cases hkk : o.kind = kind
  · rw [← hs.kind, fts_of_stat hs.1 (hkk ▸ hk)]
  · have h1 : (o.kind == kind) = false := by simpa using hkk
    have h2 : (w'.heap[id].kind == kind) = false := by rw [← hs.kind]; exact h1
    simp [h1, h2]

/-- `w`, part way through its reset, against the freshly constructed world `w0`: initial dispatcher state, statically
equivalent to `w0`, and below `k` the very entries of `w0` -/
structure Toward (c : Cfg) (w0 : FWorld) (k : Nat) (w : FWorld) : Prop where
  s : w.s = init c.I
  rel : SRel c w w0
  eq : ∀ i, i < k → w.heap[i]? = w0.heap[i]?

theorem Toward.set {c : Cfg} {w0 w : FWorld} {k : Nat} (h0 : XInv c w0 []) (h : Toward c w0 k w) {j : Nat} {x : FObs}
    (hx : w0.heap[j]? = some x) : Toward c w0 k (w.setObs j x) ∧ (w.setObs j x).heap[j]? = some x := by
  have hlt : j < w.heap.length := by rw [h.rel.len]; exact heap_lt hx
  refine ⟨⟨h.s, ⟨h.rel.cfg, h.rel.cfg', h.rel.subs, ?_, h.rel.full, ?_⟩, ?_⟩, setObs_heap_self hlt x⟩
  · simp only [FWorld.setObs, List.length_set]; exact h.rel.len
  · intro i o o' ho ho'
    by_cases hi : j = i
    · subst hi
      rw [setObs_heap_self hlt] at ho
      cases ho
      exact (srel_of_xinv h0).ent j _ _ hx ho'
    · rw [setObs_heap_ne w hi] at ho
      exact h.rel.ent i o o' ho ho'
  · intro i hi
    by_cases hji : j = i
    · subst hji; rw [setObs_heap_self hlt, hx]
    · rw [setObs_heap_ne w hji]; exact h.eq i hi

theorem resetRemaining_found {w : FWorld} {id uid : Nat} {o u : FObs} (hf : w.findObs .unscheduled [] = some uid)
    (hu : w.heap[uid]? = some u) (ho : w.heap[id]? = some o) (hne : uid ≠ id) :
    w.resetRemaining id = (w.setObs uid { u with deques := fullDequesF w.cfg.I }).setObs id
      (remainingInit w.cfg (fullDequesF w.cfg.I) (o.zeroed w.cfg.I)) := by
  unfold FWorld.resetRemaining
  have hg : w.getUnscheduled = (w, uid) := by
    unfold FWorld.getUnscheduled
    rw [hf]
  rw [hg]
  simp only
  rw [getD_of_get hu, getD_of_get (show (w.setObs uid _).heap[id]? = some o by rw [setObs_heap_ne w hne]; exact ho),
    getD_of_get (setObs_heap_self (heap_lt hu) _)]
  rfl

theorem resetRemaining_toward {c : Cfg} {w0 w : FWorld} {k : Nat} (h0 : XInv c w0 []) (h : Toward c w0 k w) {id : Nat}
    {o0 : FObs} (ho0 : w0.heap[id]? = some o0) (hk0 : o0.kind = .remainingOps) (hf : RemFix c w0 [] o0) :
    Toward c w0 k (w.resetRemaining id) ∧ (w.resetRemaining id).heap[id]? = some o0 := by
  obtain ⟨uid, u0, hf0, _, hu0, hud, hfix⟩ := hf
  obtain ⟨_, u0', hu0', hku0, _⟩ := findObs_subAt hf0
  rw [hu0] at hu0'; cases hu0'
  obtain ⟨o, ho, so⟩ := h.rel.get ho0
  obtain ⟨u, hu, su⟩ := h.rel.get hu0
  have hne : uid ≠ id := by
    intro e; subst e
    rw [hu0] at ho0; cases ho0
    rw [hku0] at hk0; cases hk0
  have e1 : ({ u with deques := fullDequesF c.I } : FObs) = u0 := by
    rw [unsched_full_congr c.I su.1 (su.kind.trans hku0), ← hud]
  have e2 : remainingInit c (fullDequesF c.I) (o.zeroed c.I) = o0 := by
    rw [zeroed_congr c.I so.1 (so.kind.trans hk0), hfix]
  rw [resetRemaining_found ((h.rel.findObs (by decide) []).trans hf0) hu ho hne, h.rel.cfg, e1, e2]
  exact (h.set h0 hu0).1.set h0 ho0

theorem fixO_resetLocal {c : Cfg} {w : FWorld} {ex : List Nat} {k : Nat} {o : FObs} (h1 : o.kind ≠ .remainingOps)
    (h2 : o.kind ≠ .isCompleted) (fx : FixO c w ex k o) : resetLocal c (init c.I) w.heap o = o := by
  by_cases h3 : o.kind = .composite
  · exact ((fixO_composite h3).1 fx).2
  by_cases h4 : o.kind = .earliestStart
  · exact ((fixO_est h4).1 fx).2
  · exact (fixO_local (localK_of_ne h1 h2 h3 h4)).1 fx

theorem callReset_toward {c : Cfg} (hv : Valid c.I) {w0 w : FWorld} {k : Nat} (h0 : XInv c w0 []) (h : Toward c w0 k w) :
    Toward c w0 (k + 1) (w.callReset k) := by
  suffices hs : Toward c w0 k (w.callReset k) ∧ (w.callReset k).heap[k]? = w0.heap[k]? from
    ⟨hs.1.s, hs.1.rel, fun i hi => by
      by_cases hik : i = k
      · rw [hik]; exact hs.2
      · exact hs.1.eq i (by omega)⟩
  cases ho0 : w0.heap[k]? with
  | none =>
    have hn : w.heap[k]? = none := by
      rw [List.getElem?_eq_none_iff] at ho0 ⊢
      rw [h.rel.len]; exact ho0
    rw [callReset_none hn]
    exact ⟨h, hn⟩
  | some o0 =>
    obtain ⟨o, ho, so⟩ := h.rel.get ho0
    have fx := h0.fix k o0 (by simp) ho0
    by_cases h1 : o0.kind = .remainingOps
    · rw [callReset_remaining w k o ho (so.kind.trans h1)]
      exact resetRemaining_toward h0 h ho0 h1 ((fixO_remaining h1).1 fx)
    by_cases h2 : o0.kind = .isCompleted
    · obtain ⟨rid, r0, hf0, _, hr0, hrf, hfin⟩ := (fixO_isCompleted h2).1 fx
      obtain ⟨_, r0', hr0', hkr0, _⟩ := findObs_subAt hf0
      rw [hr0] at hr0'; cases hr0'
      have hne : k ≠ rid := by
        intro e; subst e
        rw [ho0] at hr0; cases hr0
        rw [h2] at hkr0; cases hkr0
      have hfts : ∀ {x : FObs}, SEq c k x o0 → x.fts = o0.fts := fun sx =>
        fts_of_stat sx.1 (by rw [sx.kind, h2]; simp)
      have hg : w.getRemaining (o.fts.filter (· != .operations)) = (w, rid) := by
        unfold FWorld.getRemaining
        rw [hfts so, h.rel.findObs (by decide), hf0]
      rw [callReset_isCompleted w k o ho (so.kind.trans h2), hg]
      simp only
      obtain ⟨h', hr⟩ := resetRemaining_toward h0 h hr0 hkr0 hrf
      generalize w.resetRemaining rid = w1 at h' hr
      obtain ⟨o1, ho1, so1⟩ := h'.rel.get ho0
      have f1 : (w1.setObs k (o1.zeroed w1.cfg.I)).findObs .remainingOps (o1.fts.filter (· != .operations)) = some rid := by
        rw [FWReset.findObs_setObs ho1 (o' := o1.zeroed w1.cfg.I) rfl rfl, hfts so1, h'.rel.findObs (by decide), hf0]
      rw [isCompletedInit_found ho1 f1 hr hne, h'.rel.cfg, icFinal_congr c.I _ _ so1.1 (so1.kind.trans h2), hfin]
      exact h'.set h0 ho0
    · rw [callReset_local w k o ho (so.kind ▸ h1) (so.kind ▸ h2), h.rel.cfg, h.s,
        resetLocal_congr hv so (so.kind ▸ h1) (so.kind ▸ h2) (fun i hi => h.eq i hi), fixO_resetLocal h1 h2 fx]
      exact h.set h0 ho0

theorem fold_toward {c : Cfg} (hv : Valid c.I) {w0 : FWorld} (h0 : XInv c w0 []) : ∀ (n k : Nat) (w : FWorld),
    Toward c w0 k w → Toward c w0 (k + n) ((List.range' k n).foldl (fun w id => w.callReset id) w)
  | 0, _, _, h => h
  | n + 1, k, w, h => by
    simp only [List.range'_succ, List.foldl_cons]
    have := fold_toward hv h0 n (k + 1) _ (callReset_toward hv h0 h)
    rwa [Nat.add_assoc, Nat.add_comm 1 n] at this

theorem Toward.done {c : Cfg} {w0 w : FWorld} (h0 : XInv c w0 []) (h : Toward c w0 w0.heap.length w) : w = w0 := by
  refine world_ext (h.rel.cfg.trans h0.cfg.symm) (h.s.trans h0.s.symm) h.rel.subs (List.ext_getElem? fun i => ?_)
  by_cases hi : i < w0.heap.length
  · exact h.eq i hi
  · rw [List.getElem?_eq_none (by rw [h.rel.len]; omega), List.getElem?_eq_none (by omega)]

theorem reset_fresh {c : Cfg} (hv : Valid c.I) {w0 w : FWorld} (h0 : XInv c w0 []) (h : SRel c w w0) : w.reset = w0 := by
  have ht := fold_toward hv h0 w0.heap.length 0 { w with s := JS.init w.cfg.I }
    ⟨by rw [h.cfg], ⟨h.cfg, h.cfg', h.subs, h.len, h.full, h.ent⟩, fun i hi => absurd hi (Nat.not_lt_zero i)⟩
  rw [Nat.zero_add, ← List.range_eq_range', ← h.full, ← h.subs] at ht
  exact ht.done h0

theorem reset_fix {c : Cfg} (hv : Valid c.I) {w : FWorld} (h : XInv c w []) : w.reset = w :=
  reset_fresh hv h (srel_of_xinv h)

theorem xinv_init (c : Cfg) : XInv c (FWorld.init c) [] := by
  refine ⟨rfl, rfl, rfl, (fun x hx => nomatch hx), ?_⟩
  intro k o _ ho
  simp [FWorld.init] at ho

theorem xinv_step {c : Cfg} {w : FWorld} (hv : Valid c.I) (h : XInv c w []) (e : FEv) (he : e.isCtor = true)
    (hp : ∀ l, e = .composite (some l) → ∀ i ∈ l, i < w.heap.length) : XInv c (w.step e) [] := by
  cases e with
  | disp j p m => cases he
  | reset => cases he
  | construct k fts => exact construct_x hv h k fts
  | composite parts => exact constructComposite_x h parts (fun l hl => hp l (by rw [hl]))
  | residual b rm rj => exact constructResidual_x h _ rm rj

theorem xinv_ctors {c : Cfg} (hv : Valid c.I) : ∀ (ctors : List FEv) (w : FWorld), XInv c w [] → CtorsOK w ctors →
    XInv c (ctors.foldl FWorld.step w) []
  | [], _, h, _ => h
  | e :: t, w, h, hok => by
    simp only [List.foldl_cons]
    obtain ⟨h1, _, h3, h4⟩ := hok
    exact xinv_ctors hv t _ (xinv_step hv h e h1 h3) h4

end RF

theorem xinv_run (c : Cfg) (hv : Valid c.I) (ctors : List FEv) (hok : CtorsOK (FWorld.init c) ctors) :
    RF.XInv c (FWorld.run c ctors) [] :=
  RF.xinv_ctors hv ctors _ (RF.xinv_init c) hok

/-- a reset of the freshly constructed world changes nothing -/
theorem C12_fresh_fixpoint (c : Cfg) (hv : Valid c.I) (ctors : List FEv) (hok : CtorsOK (FWorld.init c) ctors) :
    (FWorld.run c ctors).reset = FWorld.run c ctors :=
  RF.reset_fix hv (xinv_run c hv ctors hok)

theorem srel_events {c : Cfg} (hv : Valid c.I) {w0 : FWorld} (h0 : RF.XInv c w0 []) : ∀ (evs : List FEv) (w : FWorld),
    RF.SRel c w w0 → (∀ e ∈ evs, e.isCtor = false) → RF.SRel c (evs.foldl FWorld.step w) w0
  | [], _, h, _ => h
  | e :: t, w, h, hev => by
    simp only [List.foldl_cons]
    have he := hev e (List.mem_cons_self ..)
    have hrest : ∀ e' ∈ t, e'.isCtor = false := fun e' he' => hev e' (List.mem_cons_of_mem _ he')
    cases e with
    | disp j p m => exact srel_events hv h0 t _ (RF.srel_dispatch h j p m) hrest
    | reset =>
      have : w.reset = w0 := RF.reset_fresh hv h0 h
      show RF.SRel c (t.foldl FWorld.step w.reset) w0
      rw [this]
      exact srel_events hv h0 t _ (RF.srel_of_xinv h0) hrest
    | construct k fts => simp [FEv.isCtor] at he
    | composite parts => simp [FEv.isCtor] at he
    | residual b rm rj => simp [FEv.isCtor] at he

/-- **C12**: reset at any point of any history = the freshly constructed world (every observer, every field) -/
theorem C12_world (c : Cfg) (hv : Valid c.I) (ctors evs : List FEv) (hok : CtorsOK (FWorld.init c) ctors)
    (hev : ∀ e ∈ evs, e.isCtor = false) :
    (FWorld.run c (ctors ++ evs)).reset = FWorld.run c ctors := by
  have h0 := xinv_run c hv ctors hok
  have hs : RF.SRel c (FWorld.run c (ctors ++ evs)) (FWorld.run c ctors) := by
    unfold FWorld.run
    rw [List.foldl_append]
    exact srel_events hv h0 evs _ (RF.srel_of_xinv h0) hev
  exact RF.reset_fresh hv h0 hs

/-- a reset forgets the history: whatever happened since construction, the reset world is the reset fresh world -/
theorem C12_reset_forgets (c : Cfg) (hv : Valid c.I) (ctors evs : List FEv) (hok : CtorsOK (FWorld.init c) ctors)
    (hev : ∀ e ∈ evs, e.isCtor = false) :
    (FWorld.run c (ctors ++ evs)).reset = (FWorld.run c ctors).reset := by
  rw [C12_world c hv ctors evs hok hev, C12_fresh_fixpoint c hv ctors hok]

/-! non-vacuity: a constructor list with lazily created helpers, explicit and implicit composites and a graph updater
is well formed -/
example : CtorsOK (FWorld.init { I := exampleInstance })
    [.construct .isCompleted none, .construct .earliestStart (some [.jobs, .operations]), .construct .remainingOps none,
     .composite (some [0, 1]), .composite none, .residual .agentTask true true] := by
  simp only [CtorsOK, FEv.isCtor, FEv.NodupFts, true_and, and_true]
  refine ⟨?_, ?_, ?_, ?_, ?_, ?_, ?_⟩
  · intro l hl; cases hl
  · decide
  · intro l hl; cases hl
  · intro l hl; cases hl
  · intro l hl
    cases hl
    decide +kernel
  · intro l hl; cases hl
  · intro l hl; cases hl

/-! non-vacuity: a world with helpers, reset after a partial episode equals the freshly built world -/
example :
    let c : Cfg := { I := exampleInstance, F := some [.dominated] }
    let setup : List FEv := [.construct .isCompleted none, .construct .earliestStart none, .construct .duration none,
      .construct .makespanReward none, .composite none]
    let w1 := FWorld.run c (setup ++ [.disp 1 0 none, .disp 0 0 (some 0), .disp 0 1 none, .reset])
    let w0 := FWorld.run c setup
    w1.heap = w0.heap ∧ w1.subs = w0.subs := by
  intro c setup w1 w0
  have hok : CtorsOK (FWorld.init c) setup := by
    simp only [setup, CtorsOK, FEv.isCtor, FEv.NodupFts, true_and, and_true]
    exact ⟨nofun, nofun, nofun, nofun, nofun⟩
  have h := C12_world c (valid_of_validB (by decide +kernel)) setup [.disp 1 0 none, .disp 0 0 (some 0), .disp 0 1 none] hok
    (by decide +kernel)
  have e : setup ++ [.disp 1 0 none, .disp 0 0 (some 0), .disp 0 1 none, .reset] =
      setup ++ [.disp 1 0 none, .disp 0 0 (some 0), .disp 0 1 none] ++ [.reset] ++ [] := by simp
  have h2 := C12_trace_after_reset c (setup ++ [.disp 1 0 none, .disp 0 0 (some 0), .disp 0 1 none]) []
  rw [← e, List.foldl_nil, h] at h2
  exact ⟨congrArg FWorld.heap h2, congrArg FWorld.subs h2⟩

end JS
