import JobShopProofs.FeatureWorldReset
/-!
# The value invariant of the feature world: the fresh world, and constructors on a fresh dispatcher

`finv_init`: the world without observers satisfies `FInv`.  `finv_ctor`: constructing any observer while the
dispatcher is still in its initial state keeps `FInv` (and neither the dispatcher state nor the configuration
change).

Method: a constructor pushes observers and rewrites what it has pushed; in the initial state every observer it leaves
behind holds the values specified for the initial state (`FWReset.Mod (Q0 c)`, the relation `Dispatcher.reset` is
described with), and the entries it does not touch are correct by the invariant.
-/
namespace JS
namespace FCtor

/-- `w'` has `w`'s configuration and dispatcher state, and every heap entry of `w` unchanged -/
structure Keep (w w' : FWorld) : Prop where
  cfg : w'.cfg = w.cfg
  s : w'.s = w.s
  keep : ∀ (k : Nat) (o : FObs), w.heap[k]? = some o → w'.heap[k]? = some o

theorem keep_push (w : FWorld) (o : FObs) : Keep w (w.push o).1 :=
  ⟨rfl, rfl, fun k o' h => by rw [push_heap_old w o (heap_lt h)]; exact h⟩

/-! ## constructors in the initial state, every subscriber being correct -/

open FWReset

/-- every subscriber holds the values specified for the initial state -/
def AllFresh (c : Cfg) (w : FWorld) : Prop := ∀ id ∈ w.subs, FreshAt c w id

theorem AllFresh.ufresh {c : Cfg} {w : FWorld} (h : AllFresh c w) : UFresh c w := fun id hid o ho _ => h id hid o ho

theorem AllFresh.found {c : Cfg} {w : FWorld} (h : AllFresh c w) {kind : FKind} {need : List FT} {r : Nat}
    (hf : w.findObs kind need = some r) : FreshAt c w r := h r (findObs_subAt hf).1

/-- push a zeroed `IsCompletedObserver` and initialise it: its constructor, and `create_or_get_observer` of the graph
updater -/
theorem pushCompleted_mod {c : Cfg} {w : FWorld} (hj : J c w) (hall : AllFresh c w) (b : FObs)
    (hbk : b.kind = .isCompleted) (hnd : b.fts.Nodup) :
    Mod (Q0 c) w ((w.push (b.zeroed c.I)).1.isCompletedInit w.heap.length) := by
  have hz := zeroed_shaped c.I b hnd
  have m1 : Mod (QX c (· = w.heap.length)) w (w.push (b.zeroed c.I)).1 :=
    mod_push _ w _ ⟨⟨fun _ => hz, fun h => by rw [zeroed_kind, hbk] at h; cases h⟩, fun h => absurd rfl h⟩
  have hfo := fun need => findObs_push hj.subs (b.zeroed c.I) (kind := .remainingOps) (by rw [zeroed_kind, hbk]; simp) need
  obtain ⟨m2, f2⟩ := isCompletedInit_mod (hj.ext m1) (push_heap_new w (b.zeroed c.I)) hbk
    (fun r h0 => (hall.found (hfo _ ▸ h0)).ext m1 (fun e => by
      have := heap_lt (findObs_subAt (hfo _ ▸ h0)).2.choose_spec.1
      omega))
    (fun _ => hall.ufresh.push _ (by rw [zeroed_kind, hbk]; simp))
  exact (m1.trans (m2.mono fun _ _ _ h => qx_weaken _ h)).fresh (fun _ h => Or.inr h) (fun _ => f2)

theorem getIsCompleted_mod {c : Cfg} {w : FWorld} (hj : J c w) (hall : AllFresh c w) (need : List FT)
    (hnd : need.Nodup) : Mod (Q0 c) w (w.getIsCompleted need).1 := by
  obtain rfl := hj.cfg
  exact getIsCompleted_cases w need (Mod.refl _ w) (pushCompleted_mod hj hall { kind := .isCompleted, fts := need } rfl hnd)

theorem construct_mod {c : Cfg} {w : FWorld} (hj : J c w) (hall : AllFresh c w) (hv : Valid c.I) (kind : FKind)
    (fts : Option (List FT)) (hnd : ∀ l, fts = some l → l.Nodup) : Mod (Q0 c) w (w.construct kind fts).1 := by
  obtain rfl := hj.cfg
  have plain : ∀ o : FObs, o.kind.single = false → ObsVal w.cfg (init w.cfg.I) o → Mod (Q0 w.cfg) w (w.push o).1 :=
    fun o hs ho => mod_push _ w o (qx_of_obsVal _ _ ho fun h => by rw [hs] at h; cases h)
  have feat : ∀ {b x : FObs}, Keeps w.cfg.I b x ∧ ObsVal w.cfg (init w.cfg.I) x → Mod (Q0 w.cfg) w (w.push x).1 :=
    fun h => mod_push _ w _ (qx_of_obsVal _ _ h.2 fun _ => h.1.shaped)
  refine construct_cases w kind fts (Mod.refl _ w) (plain _ rfl (obsVal_of_kind (k := .unscheduled) rfl ?_))
    (plain _ rfl (obsVal_plain rfl)) (plain _ rfl (obsVal_plain rfl)) (plain _ rfl (obsVal_plain rfl)) fun l hr => ?_
  · show List.foldl _ _ _ = _
    rw [hj.s, init_sched_flatten, List.foldl_nil, dequesSpec_init]
  have hl := resolveFts_nodup hnd hr
  rw [hj.s]
  refine ⟨?_, ?_, ?_, ?_, ?_, ?_, ?_⟩ <;> rintro rfl
  · have hz : (baseOf w.cfg.I .isReady l).Shaped w.cfg.I := zeroed_shaped _ _ hl
    exact feat ⟨keeps_isReadyFeatures w.cfg _ hz, obsVal_isReadyFeatures w.cfg _ rfl hz⟩
  · have hz : (baseOf w.cfg.I .earliestStart l).Shaped w.cfg.I := zeroed_shaped _ _ hl
    exact feat ⟨keeps_estFeatures w.cfg _ hz, obsVal_estFeatures w.cfg _ rfl hz (estInitial_spec w.cfg.I hv)⟩
  · exact feat (fresh_duration w.cfg _ (o := baseOf w.cfg.I .duration l) rfl hl)
  · exact feat (fresh_isScheduled w.cfg (o := { kind := .isScheduled, fts := l }) rfl hl)
  · exact feat (fresh_position w.cfg (o := baseOf w.cfg.I .positionInJob l) rfl hl)
  · exact remFlow_mod hj { kind := .remainingOps, fts := l } rfl hl _ (fun _ => hall.ufresh)
  · exact pushCompleted_mod hj hall { kind := .isCompleted, fts := l } rfl hl

theorem constructComposite_mod {c : Cfg} (w : FWorld) (parts : Option (List Nat)) :
    Mod (Q0 c) w (w.constructComposite parts).1 := by
  unfold FWorld.constructComposite
  simp only
  rw [push_set]
  exact mod_push _ w _ (qx_of_obsVal _ _ (obsVal_plain rfl) nofun)

theorem constructResidual_mod {c : Cfg} {w : FWorld} (hj : J c w) (hall : AllFresh c w) (g : Graph) (rm rj : Bool) :
    Mod (Q0 c) w (w.constructResidual g rm rj).1 := by
  refine constructResidual_cases w g rm rj (Mod.refl _ w) fun w1 parts h1 => ?_
  have m1 : Mod (Q0 c) w w1 := by
    rcases h1 with rfl | ⟨need, hnd, rfl⟩
    · exact Mod.refl _ _
    · exact getIsCompleted_mod hj hall need hnd
  exact m1.trans (mod_push _ w1 _ (qx_of_obsVal _ _ (obsVal_plain rfl) nofun))

end FCtor

theorem finv_init (c : Cfg) : FInv (FWorld.init c) ∧ (FWorld.init c).s = init c.I := by
  refine ⟨⟨?_, subsOK_init c, ⟨[], rfl⟩, ?_⟩, rfl⟩
  · intro k o h
    simp [FWorld.init] at h
  · intro id hid
    simp [FWorld.init] at hid

open FWReset in
/-- `hnd`: a repeated feature type in an explicit list breaks `ShapeOK` -/
theorem finv_ctor {w : FWorld} (hv : Valid w.cfg.I) (h : FInv w) (hs : w.s = init w.cfg.I) (e : FEv)
    (he : e.isCtor = true) (hnd : ∀ k l, e = .construct k (some l) → l.Nodup) :
    FInv (w.step e) ∧ (w.step e).s = init w.cfg.I ∧ (w.step e).cfg = w.cfg := by
  have hj : J w.cfg w := ⟨rfl, hs, h.subs, h.shape, fun id hid o ho hk =>
    ⟨((h.val id hid o ho).estM hk).1, ((h.val id hid o ho).estM hk).2.1⟩⟩
  have hall : FCtor.AllFresh w.cfg w := fun id hid o ho => hs ▸ h.val id hid o ho
  have m : Mod (Q0 w.cfg) w (w.step e) := by
    cases e with
    | disp j p m => cases he
    | reset => cases he
    | construct k fts => exact FCtor.construct_mod hj hall hv k fts (fun l hl => hnd k l (by rw [hl]))
    | composite parts => exact FCtor.constructComposite_mod w parts
    | residual b rm rj => exact FCtor.constructResidual_mod hj hall _ rm rj
  refine ⟨(hj.ext m).finv fun id hid o ho => ?_, (hj.ext m).s, (hj.ext m).cfg⟩
  rcases m.val id o ho with h0 | q
  · exact hall id (m.oldsub hid h0) o h0
  · exact q.2 (fun hf => hf)

end JS
