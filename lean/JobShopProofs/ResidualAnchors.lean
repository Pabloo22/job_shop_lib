import JobShopProofs.Properties.C17
import JobShopProofs.GraphEdges
import JobShopProofs.EnvLemmas
/-!
# Residual graphs: anchors of the unscheduled operations

The clause of C17 "no unscheduled operation's node is ever removed" (and "a machine / job node is removed only when all its
operations are scheduled"), at the graph level.  An operation node cannot be swept as isolated while it keeps an edge to an
*anchor* — its job successor, the sink, a machine it may run on, its job — and no anchor of an unscheduled operation is removed
explicitly by the residual graph updater.

`Anch I g r` holds for every operation of every built graph of a valid instance.  `remove_node` of a node that is neither the
operation nor one of its anchors keeps it: an edge whose ends are not the removed node survives the sweep of isolated nodes,
and so do its ends.  `AnchM` / `AnchJ` are the counterparts for a machine / job node of the agent-task graphs and its edge to the
node of `r`.  All three are kept by one update of the residual graph updater while `r` is unscheduled, as instances of
`RA.stable_residualUpdate`.  The hypothesis on the node list there is "the first `num_operations` nodes are the operation
nodes"; the weaker "operation nodes sit at their operation id" does not suffice (`RA.weak_hnodes_counterexample`).
-/
namespace JS

/-- node kinds that anchor operation `r`: its job successor, the sink (if `r` is the last operation of its job), a
machine it may run on, its job -/
def AnchorOf (I : Instance) (r : OpRef) : NodeKind → Prop
  | .operation i => i = opId I (r.1, r.2 + 1) ∧ r.2 + 1 < (I.getD r.1 []).length
  | .sink => r.2 + 1 = (I.getD r.1 []).length
  | .machine m => onMachine I m r = true
  | .job j => j = r.1
  | _ => False

/-- operation `r`'s node is in the graph and has an edge to one of its anchors -/
def Anch (I : Instance) (g : Graph) (r : OpRef) : Prop :=
  g.present (opId I r) = true ∧ g.nodes.getD (opId I r) .global = .operation (opId I r) ∧
  ∃ e ∈ g.adj.getD (opId I r) [], AnchorOf I r (g.nodes.getD e.1 .global)

/-- the node of kind `k` (a machine node, a job node) is in the graph and has an edge to the node of operation `r` -/
def AnchK (I : Instance) (g : Graph) (k : NodeKind) (r : OpRef) : Prop :=
  g.present (nodeIdOf g k) = true ∧ ∃ e ∈ g.adj.getD (nodeIdOf g k) [], e.1 = opId I r

def AnchM (I : Instance) (g : Graph) (m : Nat) (r : OpRef) : Prop := AnchK I g (.machine m) r

def AnchJ (I : Instance) (g : Graph) (r : OpRef) : Prop := AnchK I g (.job r.1) r

def RA.EdgeAt (g : Graph) (a : Nat) (e : Nat × EType) : Prop := g.present a = true ∧ e ∈ g.adj.getD a []

theorem RA.dropNode_present_ne (g : Graph) (v o : Nat) (h : o ≠ v) : (g.dropNode v).present o = g.present o := by
  simp only [Graph.present, Graph.dropNode, List.getD_eq_getElem?_getD, List.getElem?_set]
  rw [if_neg (fun h' => h h'.symm)]
  rfl

theorem RA.dropNode_mem_adj (g : Graph) (v o : Nat) (e : Nat × EType) (hov : o ≠ v) (hev : e.1 ≠ v)
    (he : e ∈ g.adj.getD o []) : e ∈ (g.dropNode v).adj.getD o [] := by
  simp only [Graph.dropNode, List.getD_eq_getElem?_getD, List.getElem?_map, List.getElem?_set] at he ⊢
  rw [if_neg (fun h => hov h.symm)]
  cases h : g.adj[o]? with
  | none => simp [h] at he
  | some l =>
    simp only [h, Option.getD_some, Option.map_some, List.mem_filter, bne_iff_ne, ne_eq] at he ⊢
    exact ⟨he, hev⟩

theorem RA.edgeAt_dropNode {g : Graph} {a : Nat} {e : Nat × EType} (h : RA.EdgeAt g a e) (v : Nat)
    (hva : v ≠ a) (hve : v ≠ e.1) : RA.EdgeAt (g.dropNode v) a e :=
  ⟨by rw [RA.dropNode_present_ne g v _ (fun h => hva h.symm)]; exact h.1,
    RA.dropNode_mem_adj g v _ e (fun h => hva h.symm) (fun h => hve h.symm) h.2⟩

theorem RA.edgeAt_foldl_dropNode {a : Nat} {e : Nat × EType} : ∀ (l : List Nat) (g : Graph),
    RA.EdgeAt g a e → a ∉ l → e.1 ∉ l → RA.EdgeAt (l.foldl (fun g v => g.dropNode v) g) a e
  | [], _, h, _, _ => h
  | b :: t, g, h, h1, h2 => by
    simp only [List.foldl_cons]
    apply RA.edgeAt_foldl_dropNode t _ (RA.edgeAt_dropNode h b (fun e => h1 (by simp [e])) (fun e => h2 (by simp [e])))
    · exact fun hm => h1 (by simp [hm])
    · exact fun hm => h2 (by simp [hm])

theorem RA.edgeAt_degree {g : Graph} {a : Nat} {e : Nat × EType} (h : RA.EdgeAt g a e) :
    g.degree a ≠ 0 ∧ g.degree e.1 ≠ 0 := by
  have hmem : (a, e.1, e.2) ∈ g.edges.filter fun x => x.2.1 == e.1 :=
    List.mem_filter.2 ⟨(mem_edges_iff g a e.1 e.2).2 ⟨present_lt h.1, h.1, h.2⟩, beq_self_eq_true e.1⟩
  have h1 := List.length_pos_of_mem h.2
  have h2 := List.length_pos_of_mem hmem
  unfold Graph.degree
  constructor
  · omega
  · omega

/-- the sweep of isolated nodes keeps every edge: the ends of an edge are not isolated -/
theorem RA.edgeAt_sweep {g : Graph} {a : Nat} {e : Nat × EType} (h : RA.EdgeAt g a e) (n : Nat) :
    RA.EdgeAt (((List.range n).filter fun v => g.present v && g.degree v == 0).foldl (fun g v => g.dropNode v) g) a e := by
  obtain ⟨d1, d2⟩ := RA.edgeAt_degree h
  refine RA.edgeAt_foldl_dropNode _ _ h (fun hm => ?_) (fun hm => ?_)
  · exact d1 (beq_iff_eq.1 (Bool.and_eq_true_iff.1 (List.mem_filter.1 hm).2).2)
  · exact d2 (beq_iff_eq.1 (Bool.and_eq_true_iff.1 (List.mem_filter.1 hm).2).2)

theorem RA.edgeAt_removeNode {g : Graph} {a : Nat} {e : Nat × EType} (h : RA.EdgeAt g a e) (u : Nat)
    (hua : u ≠ a) (hue : u ≠ e.1) : RA.EdgeAt (g.removeNode u) a e :=
  RA.edgeAt_sweep (RA.edgeAt_dropNode h u hua hue) _

theorem anch_removeNode {I : Instance} {g : Graph} (hg : GInv g) {r : OpRef} (h : Anch I g r) (u : Nat)
    (hu : u < g.nodes.length) (hne : u ≠ opId I r) (hna : ¬ AnchorOf I r (g.nodes.getD u .global)) :
    Anch I (g.removeNode u) r := by
  have _ := hg
  have _ := hu
  obtain ⟨h1, h2, e, he, ha⟩ := h
  obtain ⟨k1, k2⟩ := RA.edgeAt_removeNode (⟨h1, he⟩ : RA.EdgeAt g _ e) u hne fun heq => hna (heq ▸ ha)
  unfold Anch
  rw [removeNode_nodes]
  exact ⟨k1, h2, e, k2, ha⟩

theorem RA.edgeAt_removeIf {g : Graph} (hg : GInv g) {a : Nat} {e : Nat × EType} (h : RA.EdgeAt g a e) (nid : Nat)
    (cond : Bool) (hs : cond = true → nid < g.nodes.length → nid ≠ a ∧ nid ≠ e.1) :
    RA.EdgeAt (removeIf g nid cond) a e := by
  unfold removeIf
  split
  · rename_i hc
    obtain ⟨hc1, hlt⟩ := removeIf_cond hc
    rw [hg.lenR] at hlt
    exact RA.edgeAt_removeNode h nid (hs hc1 hlt).1 (hs hc1 hlt).2
  · exact h

theorem RA.nodeIdOf_get {g : Graph} {k : NodeKind} (h : g.present (nodeIdOf g k) = true) :
    g.nodes.getD (nodeIdOf g k) .global = k :=
  getD_of_idxOf rfl (present_lt h) _

theorem anchK_present {I : Instance} {g : Graph} (hg : GInv g) {k : NodeKind} {r : OpRef} (h : AnchK I g k r) :
    g.present (nodeIdOf g k) = true ∧ g.present (opId I r) = true := by
  obtain ⟨h1, e, he, hee⟩ := h
  exact ⟨h1, by rw [← hee]; exact hg.target _ e he⟩

/-- `P` survives the conditional removal of every node other than node `o` whose kind is not in `D` -/
def RA.Stable (P : Graph → Prop) (o : Nat) (D : NodeKind → Prop) : Prop :=
  ∀ g, GInv g → P g → ∀ (nid : Nat) (cond : Bool),
    (cond = true → nid < g.nodes.length → nid ≠ o ∧ ¬ D (g.nodes.getD nid .global)) → P (removeIf g nid cond)

theorem RA.stable_anch (I : Instance) (r : OpRef) : RA.Stable (fun g => Anch I g r) (opId I r) (AnchorOf I r) := by
  intro g hg ⟨h1, h2, e, he, ha⟩ nid cond hs
  obtain ⟨k1, k2⟩ := RA.edgeAt_removeIf hg (⟨h1, he⟩ : RA.EdgeAt g _ e) nid cond fun hc hlt =>
    ⟨(hs hc hlt).1, fun heq => (hs hc hlt).2 (heq ▸ ha)⟩
  unfold Anch
  rw [removeIf_nodes]
  exact ⟨k1, h2, e, k2, ha⟩

theorem RA.stable_anchK (I : Instance) (k : NodeKind) (r : OpRef) :
    RA.Stable (fun g => AnchK I g k r) (opId I r) (fun k' => k' = k) := by
  intro g hg ⟨h1, e, he, hee⟩ nid cond hs
  obtain ⟨k1, k2⟩ := RA.edgeAt_removeIf hg (⟨h1, he⟩ : RA.EdgeAt g _ e) nid cond fun hc hlt =>
    ⟨fun heq => (hs hc hlt).2 (heq ▸ RA.nodeIdOf_get h1), hee ▸ (hs hc hlt).1⟩
  unfold AnchK
  rw [nodeIdOf_congr (removeIf_nodes g nid cond)]
  exact ⟨k1, e, k2, hee⟩

/-- what every removal of the updater preserves: the graph invariant, the node list, the property -/
structure RA.RInv (P : Graph → Prop) (ns : List NodeKind) (g : Graph) : Prop where
  ginv : GInv g
  nodes : g.nodes = ns
  holds : P g

theorem RA.RInv.removeIf {P : Graph → Prop} {o : Nat} {D : NodeKind → Prop} (hst : RA.Stable P o D) {ns : List NodeKind}
    {g : Graph} (h : RA.RInv P ns g) (nid : Nat) (cond : Bool)
    (hs : cond = true → nid < ns.length → nid ≠ o ∧ ¬ D (ns.getD nid .global)) : RA.RInv P ns (removeIf g nid cond) :=
  ⟨ginv_removeIf h.ginv _ _, (removeIf_nodes ..).trans h.nodes, hst g h.ginv h.holds nid cond (by rw [h.nodes]; exact hs)⟩

theorem RA.rinv_removeFlagged {P : Graph → Prop} {o : Nat} {D : NodeKind → Prop} (hst : RA.Stable P o D)
    {ns : List NodeKind} (hno : ns.getD o .global = .operation o) (flags : List Int) (kind : Nat → NodeKind)
    (hk : ∀ i, kind i ≠ .operation o) (hsafe : ∀ i, flags[i]? = some 1 → ¬ D (kind i)) {g : Graph}
    (h : RA.RInv P ns g) : RA.RInv P ns (removeFlagged g flags kind) := by
  unfold removeFlagged
  refine foldl_pres _ _ g (fun g hg a ha => hg.removeIf hst _ _ fun hc hlt => ?_) h
  have hfl : flags[a.2]? = some a.1 := List.mem_zipIdx_iff_getElem?.1 ha
  rw [beq_iff_eq.1 hc] at hfl
  simp only [nodeIdOf, hg.nodes] at hlt ⊢
  have hget : ns.getD (List.idxOf (kind a.2) ns) .global = kind a.2 := getD_of_idxOf rfl hlt _
  constructor
  · intro heq
    rw [heq, hno] at hget
    exact hk a.2 hget.symm
  · rw [hget]; exact hsafe a.2 hfl

theorem RA.sum_zero_of_nonneg : ∀ (l : List Int), (∀ x ∈ l, 0 ≤ x) → l.sum = 0 → ∀ x ∈ l, x = 0
  | [], _, _ => by simp
  | a :: t, h, hs => by
    have h1 := h a (by simp)
    have h2 := sum_nonneg_of (l := t) (fun x hx => h x (by simp [hx]))
    simp only [List.sum_cons] at hs
    intro x hx
    rcases List.mem_cons.1 hx with rfl | hx
    · omega
    · exact RA.sum_zero_of_nonneg t (fun x hx => h x (by simp [hx])) (by omega) x hx

theorem ite_one_zero_eq_one {p : Prop} [Decidable p] : (if p then (1 : Int) else 0) = 1 ↔ p := by
  by_cases h : p <;> simp [h]

theorem complMachSpec_eq_one {I : Instance} {s : State} {m : Nat} :
    (complMachSpec I s)[m]? = some 1 ↔
      m < numMachines I ∧ ((unscheduledPure I s).map (machCount I m)).sum = 0 ∧ machineUsed I m = true := by
  unfold complMachSpec remMachSpec
  rw [getElem?_map_range, List.getD_eq_getElem?_getD]
  refine and_congr_right fun hm => ?_
  rw [List.getElem?_map, List.getElem?_range hm]
  exact ite_one_zero_eq_one

theorem complJobsSpec_eq_one {I : Instance} {s : State} {j : Nat} :
    (complJobsSpec I s)[j]? = some 1 ↔
      j < I.length ∧ (((unscheduledPure I s).filter fun r => r.1 == j).length : Int) = 0 ∧ (I.getD j []).length ≠ 0 := by
  unfold complJobsSpec remJobsSpec
  rw [getElem?_map_range, List.getD_eq_getElem?_getD]
  refine and_congr_right fun hj => ?_
  rw [List.getElem?_map, List.getElem?_range hj]
  exact ite_one_zero_eq_one

theorem RA.complMach_flag {I : Instance} {s : State} {m : Nat} (h : (complMachSpec I s)[m]? = some 1) {r : OpRef}
    (hr : r ∈ unscheduledPure I s) : onMachine I m r = false := by
  obtain ⟨_, h0, _⟩ := complMachSpec_eq_one.1 h
  have hz := RA.sum_zero_of_nonneg _ (by
    intro x hx
    obtain ⟨r', _, rfl⟩ := List.mem_map.1 hx
    unfold machCount; split <;> omega) h0 (machCount I m r) (List.mem_map_of_mem hr)
  unfold machCount at hz
  unfold onMachine
  cases hop : getOp I r.1 r.2 with
  | none => rfl
  | some op =>
    rw [hop] at hz
    simp only at hz ⊢
    have : op.machines.count m = 0 := by omega
    have hnm : m ∉ op.machines := List.count_eq_zero.1 this
    simpa using hnm

theorem RA.complJobs_flag {I : Instance} {s : State} {j : Nat} (h : (complJobsSpec I s)[j]? = some 1) {r : OpRef}
    (hr : r ∈ unscheduledPure I s) : j ≠ r.1 := by
  obtain ⟨_, h0, _⟩ := complJobsSpec_eq_one.1 h
  intro heq
  have hmem : r ∈ (unscheduledPure I s).filter fun r => r.1 == j := List.mem_filter.2 ⟨hr, by simp [heq]⟩
  have := List.length_pos_of_mem hmem
  omega

theorem RA.completed_safe {c : Cfg} {s : State} {r r' : OpRef} (hr : r ∈ unscheduledPure c.I s)
    (hr' : r' ∈ completedPure c s) :
    opId c.I r' ≠ opId c.I r ∧
    ¬ (opId c.I r' = opId c.I (r.1, r.2 + 1) ∧ r.2 + 1 < (c.I.getD r.1 []).length) := by
  unfold completedPure at hr'
  obtain ⟨hall', hf⟩ := (mem_sortRefs _ _ _).1 hr'
  have hs' := (mem_scheduledPure _ _ _).1 (List.mem_filter.1 hf).1
  obtain ⟨hsome, hle⟩ := (mem_unscheduledPure _ _ _).1 hr
  have hall : r ∈ allOps c.I := (mem_allOps' _ _).2 hsome
  constructor
  · intro heq
    have := opId_inj hall' hall heq
    subst this
    omega
  · rintro ⟨heq, hlt⟩
    have hall2 : (r.1, r.2 + 1) ∈ allOps c.I := (mem_allOps' _ _).2 (getD_length_of_getOp.2 hlt)
    have := opId_inj hall' hall2 heq
    subst this
    simp only at hs'
    omega

theorem RA.flags_sound {heap : List FObs} {o : FObs} {ft : FT} {spec : List Int} {b : Bool}
    (h : ∀ i ic, o.parts.head? = some i → heap[i]? = some ic → b = true → ic.col ft = spec) (hb : b = true) (m : Nat)
    (hm : ((flagSource heap o).col ft)[m]? = some 1) : spec[m]? = some 1 := by
  unfold flagSource at hm
  cases hi : o.parts.head? with
  | none => rw [hi] at hm; cases hm
  | some i =>
    simp only [hi, List.getD_eq_getElem?_getD] at hm
    cases hic : heap[i]? with
    | none => rw [hic] at hm; cases hm
    | some ic => rw [← h i ic hi hic hb]; rw [hic] at hm; exact hm

/-- one update of the residual graph updater keeps every property of the graph that survives the removal of the nodes other than
`r`'s node, `r`'s job successor, the machines `r` may run on and `r`'s job — for an unscheduled `r`, when every completion flag the
updater reads as 1 is 1 in the specification -/
theorem RA.stable_residualUpdate {P : Graph → Prop} {D : NodeKind → Prop} (c : Cfg) (s : State) (heap : List FObs) (o : FObs)
    (r : OpRef) (hst : RA.Stable P (opId c.I r) D) (hD : ∀ k, D k → AnchorOf c.I r k)
    (hg : GInv o.graph)
    (hnodes : ∀ k, k < numOps c.I → o.graph.nodes[k]? = some (.operation k))
    (hflagsM : o.rmMach = true → ∀ m : Nat, ((flagSource heap o).col .machines)[m]? = some 1 → (complMachSpec c.I s)[m]? = some 1)
    (hflagsJ : o.rmJob = true → ∀ j : Nat, ((flagSource heap o).col .jobs)[j]? = some 1 → (complJobsSpec c.I s)[j]? = some 1)
    (hr : r ∈ unscheduledPure c.I s) (h : P o.graph) :
    P (residualUpdate c s heap o) := by
  have hall : r ∈ allOps c.I := (mem_allOps' _ _).2 ((mem_unscheduledPure _ _ _).1 hr).1
  have hno : o.graph.nodes.getD (opId c.I r) .global = .operation (opId c.I r) := by
    rw [List.getD_eq_getElem?_getD, hnodes _ (opId_lt hall), Option.getD_some]
  -- stage 1: a completed operation is neither `r` nor its job successor
  have h1 : RA.RInv P o.graph.nodes (removeCompletedOps c.I o.graph (completedPure c s)) := by
    refine foldl_pres _ _ _ (fun g hg r' hr' => hg.removeIf hst _ _ fun _ _ => ?_) ⟨hg, rfl, h⟩
    obtain ⟨a, b⟩ := RA.completed_safe hr hr'
    refine ⟨a, ?_⟩
    have hall' : r' ∈ allOps c.I := by
      unfold completedPure at hr'; exact ((mem_sortRefs _ _ _).1 hr').1
    rw [List.getD_eq_getElem?_getD, hnodes _ (opId_lt hall'), Option.getD_some]
    exact fun hd => b (hD _ hd)
  -- stages 2 and 3: a machine or job whose flag is 1 has no unscheduled operation
  exact (flagStage_pres o.rmJob hasJobNodes _ _ .job
    (fun hb => RA.rinv_removeFlagged hst hno _ .job nofun fun j hj hd =>
      RA.complJobs_flag (hflagsJ hb j hj) hr (hD _ hd))
    (flagStage_pres o.rmMach hasMachineNodes _ _ .machine
      (fun hb => RA.rinv_removeFlagged hst hno _ .machine nofun fun m hm hd =>
        Bool.false_ne_true ((RA.complMach_flag (hflagsM hb m hm) hr).symm.trans (hD _ hd)))
      h1)).holds

/-- one update of the residual graph updater keeps the anchors of the operations that are unscheduled, provided the completion flags
it reads are the specification.  (`hnodes`: the first `num_operations` nodes are the operation nodes, node id = operation id — true of
every graph of the four builders, `RA.build_opnodes`, and kept by every update, `RA.residualUpdate_nodes`.) -/
theorem anch_residualUpdate (c : Cfg) (s : State) (heap : List FObs) (o : FObs) (hg : GInv o.graph)
    (hnodes : ∀ k, k < numOps c.I → o.graph.nodes[k]? = some (.operation k))
    (hflagsM : ∀ i ic, o.parts.head? = some i → heap[i]? = some ic → o.rmMach = true → ic.col .machines = complMachSpec c.I s)
    (hflagsJ : ∀ i ic, o.parts.head? = some i → heap[i]? = some ic → o.rmJob = true → ic.col .jobs = complJobsSpec c.I s)
    (r : OpRef) (hr : r ∈ unscheduledPure c.I s) (h : Anch c.I o.graph r) :
    Anch c.I (residualUpdate c s heap o) r :=
  RA.stable_residualUpdate c s heap o r (RA.stable_anch c.I r) (fun _ hd => hd) hg hnodes
    (RA.flags_sound hflagsM) (RA.flags_sound hflagsJ) hr h

/-- **a machine node is removed only when all its operations are scheduled**: one update of the residual graph updater keeps the
node of machine `m` and its edge to every unscheduled operation that may run on `m` -/
theorem anchM_residualUpdate (c : Cfg) (s : State) (heap : List FObs) (o : FObs) (hg : GInv o.graph)
    (hnodes : ∀ k, k < numOps c.I → o.graph.nodes[k]? = some (.operation k))
    (hflagsM : ∀ i ic, o.parts.head? = some i → heap[i]? = some ic → o.rmMach = true → ic.col .machines = complMachSpec c.I s)
    (hflagsJ : ∀ i ic, o.parts.head? = some i → heap[i]? = some ic → o.rmJob = true → ic.col .jobs = complJobsSpec c.I s)
    (m : Nat) (r : OpRef) (hr : r ∈ unscheduledPure c.I s) (hm : onMachine c.I m r = true) (h : AnchM c.I o.graph m r) :
    AnchM c.I (residualUpdate c s heap o) m r :=
  RA.stable_residualUpdate c s heap o r (RA.stable_anchK c.I (.machine m) r) (fun _ hd => hd ▸ hm) hg hnodes
    (RA.flags_sound hflagsM) (RA.flags_sound hflagsJ) hr h

/-- **a job node is removed only when all its operations are scheduled**: one update of the residual graph updater keeps the node
of the job of every unscheduled operation, and its edge to the operation -/
theorem anchJ_residualUpdate (c : Cfg) (s : State) (heap : List FObs) (o : FObs) (hg : GInv o.graph)
    (hnodes : ∀ k, k < numOps c.I → o.graph.nodes[k]? = some (.operation k))
    (hflagsM : ∀ i ic, o.parts.head? = some i → heap[i]? = some ic → o.rmMach = true → ic.col .machines = complMachSpec c.I s)
    (hflagsJ : ∀ i ic, o.parts.head? = some i → heap[i]? = some ic → o.rmJob = true → ic.col .jobs = complJobsSpec c.I s)
    (r : OpRef) (hr : r ∈ unscheduledPure c.I s) (h : AnchJ c.I o.graph r) :
    AnchJ c.I (residualUpdate c s heap o) r :=
  RA.stable_residualUpdate c s heap o r (RA.stable_anchK c.I (.job r.1) r) (fun _ hd => hd ▸ rfl) hg hnodes
    (RA.flags_sound hflagsM) (RA.flags_sound hflagsJ) hr h

theorem RA.residualUpdate_nodes (c : Cfg) (s : State) (heap : List FObs) (o : FObs) :
    (residualUpdate c s heap o).nodes = o.graph.nodes :=
  (residualUpdate_sizeLe c s heap o o.graph (SizeLe.refl _)).nodes

/-! Every anchor is an edge the builder's edge specification prescribes (`stage_build`). -/

structure RA.Good (g : Graph) : Prop where
  ginv : GInv g
  norem : NoRemoved g

theorem RA.Good.present {g : Graph} (h : RA.Good g) {a : Nat} (ha : a < g.nodes.length) : g.present a = true :=
  present_of_noRemoved h.norem ha

theorem RA.getD_opnodes (n : Nat) (t : List NodeKind) (k : Nat) (h : k < n) (d : NodeKind) :
    ((List.range n).map NodeKind.operation ++ t).getD k d = .operation k := by
  rw [getD_append_left _ _ _ _ (by simpa using h)]
  simp [List.getD_eq_getElem?_getD, List.getElem?_range h]

theorem RA.exists_onMachine {I : Instance} (hv : Valid I) {r : OpRef} (hr : r ∈ allOps I) : ∃ m, onMachine I m r = true := by
  obtain ⟨op, hop⟩ := Option.isSome_iff_exists.1 ((mem_allOps' I r).1 hr)
  obtain ⟨m, hm⟩ := List.exists_mem_of_ne_nil _ (hv r.1 r.2 op hop).1
  exact ⟨m, by unfold onMachine; rw [hop]; simpa using hm⟩

theorem RA.anch_of_stage {I : Instance} {g : Graph} {t' : List NodeKind} {S : Nat → Nat → EType → Prop}
    (h : Stage g (opsL I ++ t') S) {r : OpRef} (hr : r ∈ allOps I) {v : Nat} {t : EType} (he : S (opId I r) v t)
    (ha : AnchorOf I r ((opsL I ++ t').getD v .global)) : Anch I g r := by
  have hlt : opId I r < g.nodes.length := by
    have := opId_lt hr
    rw [h.nodes, List.length_append, List.length_map, List.length_range]; omega
  refine ⟨present_of_noRemoved h.nr hlt, ?_, (v, t), (h.edges _ _ _).2 he, ?_⟩
  · rw [h.nodes]; exact RA.getD_opnodes _ _ _ (opId_lt hr) _
  · rw [h.nodes]; exact ha

theorem RA.anchK_of_stage {I : Instance} {g : Graph} {ns : List NodeKind} {S : Nat → Nat → EType → Prop}
    (h : Stage g ns S) {k : NodeKind} {n : Nat} (hid : List.idxOf k ns = n) (hn : n < ns.length) {r : OpRef} {t : EType}
    (he : S n (opId I r) t) : AnchK I g k r := by
  have hk : nodeIdOf g k = n := by unfold nodeIdOf; rw [h.nodes, hid]
  unfold AnchK
  rw [hk]
  exact ⟨present_of_noRemoved h.nr (by rw [h.nodes]; exact hn), (opId I r, t), (h.edges _ _ _).2 he, rfl⟩

/-- every builder gives every operation an anchor (agent-task graphs: through the operation-machine edges, so machine lists must
be non-empty: `Valid`) -/
theorem anch_build (b : Builder) (I : Instance) (hv : Valid I) : ∀ r ∈ allOps I, Anch I (build b I) r := by
  intro r hr
  by_cases hb : b = .disjunctive
  · subst hb
    have st := stage_disjunctive I
    obtain ⟨hj, hlen⟩ := (mem_allOps_iff I r.1 r.2).1 hr
    by_cases hlast : r.2 + 1 = (I.getD r.1 []).length
    · have hnot : (r.1, r.2 + 1) ∉ allOps I := by rw [mem_allOps_iff]; omega
      refine RA.anch_of_stage st hr (Or.inr (Or.inr ⟨r, hr, hnot, rfl, rfl, rfl⟩)) ?_
      have : (opsL I ++ [NodeKind.source, .sink]).getD (numOps I + 1) .global = .sink := by
        simp [List.getD_eq_getElem?_getD]
      rw [this]; exact hlast
    · have hp : r.2 + 1 < (I.getD r.1 []).length := by omega
      have hr2 : (r.1, r.2 + 1) ∈ allOps I := (mem_allOps_iff I r.1 (r.2 + 1)).2 ⟨hj, hp⟩
      refine RA.anch_of_stage st hr
        (Or.inl ⟨r, hr, _, hr2, jobSucc_ne ⟨rfl, rfl⟩, rfl, rfl, Or.inl ⟨⟨rfl, rfl⟩, rfl⟩⟩) ?_
      rw [RA.getD_opnodes _ _ _ (opId_lt hr2)]; exact ⟨rfl, hp⟩
  · obtain ⟨m, hm⟩ := RA.exists_onMachine hv hr
    obtain ⟨t, ht⟩ := nodesOf_machs b I hb
    have st : Stage (build b I) (opsL I ++ (machsL I ++ t)) (EdgeSpecOf b I) := by
      rw [← List.append_assoc, ← ht]; exact stage_build b I
    refine RA.anch_of_stage st hr (edgeSpecOf_opMach b I hb ⟨r, hr, m, hm, Or.inl ⟨rfl, rfl⟩⟩) ?_
    rw [← List.append_assoc, getD_of_idxOf (idxOf_machine (numOps I) (numMachines I) m t (onMachine_lt hm))]
    · exact hm
    · simp only [List.length_append, List.length_map, List.length_range]; have := onMachine_lt hm; omega

/-- in the three agent-task graphs every machine node has an edge to every operation that may run on the machine -/
theorem anchM_build (b : Builder) (hb : b ≠ .disjunctive) (I : Instance) (m : Nat) :
    ∀ r ∈ allOps I, onMachine I m r = true → AnchM I (build b I) m r := by
  intro r hr hm
  obtain ⟨t, ht⟩ := nodesOf_machs b I hb
  have hid := idxOf_machine (numOps I) (numMachines I) m t (onMachine_lt hm)
  rw [← ht] at hid
  refine RA.anchK_of_stage (stage_build b I) hid ?_ (edgeSpecOf_opMach b I hb ⟨r, hr, m, hm, Or.inr ⟨rfl, rfl⟩⟩)
  rw [ht]; simp only [List.length_append, List.length_map, List.length_range]; have := onMachine_lt hm; omega

/-- in the two agent-task graphs with job nodes every job node has an edge to every operation of the job -/
theorem anchJ_build (b : Builder) (hb : b = .agentTaskJobs ∨ b = .completeAgentTask) (I : Instance) :
    ∀ r ∈ allOps I, AnchJ I (build b I) r := by
  intro r hr
  have hj := ((mem_allOps_iff I r.1 r.2).1 hr).1
  obtain ⟨t, ht⟩ := nodesOf_jobs b I hb
  have hid := idxOf_job (numOps I) (numMachines I) I.length r.1 t hj
  rw [← ht] at hid
  refine RA.anchK_of_stage (stage_build b I) hid ?_ (edgeSpecOf_opJob hb ⟨r, hr, Or.inr ⟨rfl, rfl⟩⟩)
  rw [ht]; simp only [List.length_append, List.length_map, List.length_range]; omega

theorem RA.build_opnodes (b : Builder) (I : Instance) : ∀ k, k < numOps I → (build b I).nodes[k]? = some (.operation k) := by
  intro k hk
  obtain ⟨t, ht⟩ := nodesOf_ops b I
  rw [(stage_build b I).nodes, ht, List.getElem?_append_left (by simpa using hk)]
  simp [List.getElem?_range hk]

theorem RA.residualUpdate_opnodes (c : Cfg) (s : State) (heap : List FObs) (o : FObs)
    (hnodes : ∀ k, k < numOps c.I → o.graph.nodes[k]? = some (.operation k)) :
    ∀ k, k < numOps c.I → (residualUpdate c s heap o).nodes[k]? = some (.operation k) := by
  rw [RA.residualUpdate_nodes]; exact hnodes

/-! The weaker hypothesis "an operation node at position `k` is the node of operation `k`"
(`∀ k i, nodes[k]? = some (.operation i) → k = i`) is not enough for `anch_residualUpdate`: nothing stops the node at the position
of a *completed* operation from being, say, the sink, which is the only anchor of another job's last operation. -/

def RA.ceI : Instance := [[⟨[0], 1⟩], [⟨[0], 1⟩]]
/-- the state after dispatching job 1's only operation on machine 0 (it is completed: the current time is 1) -/
def RA.ceS : State := { sched := [[⟨1, 0, 0, 0, 1⟩]], machNext := [1], jobIdx := [0, 1], jobNext := [0, 1] }
def RA.ceG : Graph := { nodes := [.operation 0, .sink], adj := [[(1, .conjunctive)], []], removed := [false, false] }
def RA.ceO : FObs := { kind := .residual, graph := RA.ceG, graph0 := RA.ceG, rmMach := false, rmJob := false }

theorem RA.ce_ginv : GInv RA.ceG := by
  constructor
  · rfl
  · rfl
  · intro u hu hr
    match u, hu, hr with
    | 0, _, hr => simp [RA.ceG] at hr
    | 1, _, hr => simp [RA.ceG] at hr
  · intro w e he
    match w, he with
    | 0, he =>
      simp [RA.ceG] at he; subst he; decide
    | 1, he => simp [RA.ceG] at he
    | (w + 2), he => simp [RA.ceG] at he

theorem RA.weak_hnodes_counterexample :
    ¬ ∀ (c : Cfg) (s : State) (heap : List FObs) (o : FObs), GInv o.graph →
      (∀ k i, o.graph.nodes[k]? = some (NodeKind.operation i) → k = i) →
      (∀ i ic, o.parts.head? = some i → heap[i]? = some ic → o.rmMach = true → ic.col .machines = complMachSpec c.I s) →
      (∀ i ic, o.parts.head? = some i → heap[i]? = some ic → o.rmJob = true → ic.col .jobs = complJobsSpec c.I s) →
      ∀ r, r ∈ unscheduledPure c.I s → Anch c.I o.graph r → Anch c.I (residualUpdate c s heap o) r := by
  intro H
  have h := H { I := RA.ceI } RA.ceS [] RA.ceO RA.ce_ginv
    (by
      intro k i hk
      match k, hk with
      | 0, hk => simp [RA.ceO, RA.ceG] at hk; exact hk
      | 1, hk => simp [RA.ceO, RA.ceG] at hk
      | (k + 2), hk => simp [RA.ceO, RA.ceG] at hk)
    (by intro i ic _ _ hm; cases hm) (by intro i ic _ _ hm; cases hm) (0, 0) (by decide)
    ⟨by decide, by decide, (1, .conjunctive), by decide,
      by show (0 : Nat) + 1 = (List.getD RA.ceI 0 []).length; decide⟩
  have hp : (residualUpdate { I := RA.ceI } RA.ceS [] RA.ceO).present (opId RA.ceI (0, 0)) = false := by decide +kernel
  rw [h.1] at hp
  cases hp

/-! non-vacuity: the hypotheses of the three update theorems hold for a built graph, after one dispatch -/
set_option maxRecDepth 100000 in
example :
    let c : Cfg := { I := posInstance }
    let s := run c [.disp 0 0 (some 0)]
    let o : FObs := { kind := .residual, graph := build .completeAgentTask posInstance, rmMach := false, rmJob := false }
    Anch c.I (residualUpdate c s [] o) (1, 0) ∧ AnchM c.I (residualUpdate c s [] o) 1 (1, 0) ∧
      AnchJ c.I (residualUpdate c s [] o) (1, 0) := by
  intro c s o
  have hv : Valid posInstance := valid_of_validB (by decide)
  have hr : (1, 0) ∈ unscheduledPure c.I s := by decide +kernel
  have hall : (1, 0) ∈ allOps posInstance := by decide
  have hg : GInv o.graph := C17_built_inv .completeAgentTask posInstance
  have hn := RA.build_opnodes .completeAgentTask posInstance
  have hM : ∀ i ic, o.parts.head? = some i → ([] : List FObs)[i]? = some ic → o.rmMach = true →
      ic.col .machines = complMachSpec c.I s := by intro i ic _ _ h; cases h
  have hJ : ∀ i ic, o.parts.head? = some i → ([] : List FObs)[i]? = some ic → o.rmJob = true →
      ic.col .jobs = complJobsSpec c.I s := by intro i ic _ _ h; cases h
  exact ⟨anch_residualUpdate c s [] o hg hn hM hJ (1, 0) hr (anch_build .completeAgentTask posInstance hv _ hall),
    anchM_residualUpdate c s [] o hg hn hM hJ 1 (1, 0) hr (by decide)
      (anchM_build .completeAgentTask (by decide) posInstance 1 _ hall (by decide)),
    anchJ_residualUpdate c s [] o hg hn hM hJ (1, 0) hr
      (anchJ_build .completeAgentTask (Or.inr rfl) posInstance _ hall)⟩

end JS

