import JobShopProofs.ResidualAnchors
import JobShopProofs.OwnRecord
/-!
# C17 on the whole feature world

With a residual graph updater attached, after every dispatch of every history no unscheduled operation's node is removed, every
completed operation's node is removed, and a machine / job node is removed only when all its operations are scheduled
(`C17_world`).

Route: a world invariant `RInv` over all residual observers of the heap, run alongside `FInv`, for ANY property `OK s o` of a
residual observer `o` and the dispatcher state `s` that a built graph has in the initial state and that one `residualUpdate`
reading completion flags of the new state carries across an accepted dispatch (`residual_run`).  `GraphOK` is such a property.

* `RK w w'`: the frame relation of constructors and resets — kinds never change, a residual observer is either untouched or has
  its graph put back to the initial graph, an `isCompleted` observer keeps its feature types, new entries are not residual
  observers, the subscriber list stays `List.range heap.length`.  Every sequence of edits that pushes no residual observer is one
  (`RK.of_edits`), and so is every `reset()` callback.
* the dispatch: subscribers are notified in increasing id order, so when the residual updater is notified the `isCompleted`
  observer it reads (a smaller id) already reports the completion flags of the NEW state (`fold_split`, `rinv_fold`).
-/
namespace JS
namespace RW

/-- `w'` is `w` after some pushes and rewrites that respect the residual observers -/
structure RK (w w' : FWorld) : Prop where
  good : Good w w'
  len : w.heap.length ≤ w'.heap.length
  rng : w.subs = List.range w.heap.length → w'.subs = List.range w'.heap.length
  old : ∀ (k : Nat) (o : FObs), w.heap[k]? = some o → ∃ o' : FObs, w'.heap[k]? = some o' ∧ o'.kind = o.kind ∧
    (o.kind = .residual → o' = o ∨ o' = { o with graph := o.graph0 }) ∧ (o.kind = .isCompleted → o'.fts = o.fts)
  new : ∀ (k : Nat) (o' : FObs), w.heap.length ≤ k → w'.heap[k]? = some o' → o'.kind ≠ .residual

theorem RK.refl (w : FWorld) : RK w w :=
  ⟨Good.refl w, Nat.le_refl _, fun h => h, fun _ o h => ⟨o, h, rfl, fun _ => Or.inl rfl, fun _ => rfl⟩,
    fun k o' hk h => by have := (List.getElem?_eq_some_iff.1 h).1; omega⟩

theorem RK.trans {a b c : FWorld} (h1 : RK a b) (h2 : RK b c) : RK a c := by
  refine ⟨h1.good.trans h2.good, Nat.le_trans h1.len h2.len, fun h => h2.rng (h1.rng h), ?_, ?_⟩
  · intro k o ho
    obtain ⟨o1, g1, k1, r1, f1⟩ := h1.old k o ho
    obtain ⟨o2, g2, k2, r2, f2⟩ := h2.old k o1 g1
    refine ⟨o2, g2, k2.trans k1, ?_, fun hk => (f2 (k1.trans hk)).trans (f1 hk)⟩
    intro hk
    rcases r1 hk with rfl | rfl
    · exact r2 hk
    · exact Or.inr ((r2 hk).elim id id)
  · intro k o' hk ho'
    by_cases hlt : k < b.heap.length
    · obtain ⟨o1, g1⟩ : ∃ o1, b.heap[k]? = some o1 := ⟨b.heap[k], List.getElem?_eq_getElem hlt⟩
      obtain ⟨o2, g2, k2, _, _⟩ := h2.old k o1 g1
      rw [ho'] at g2; cases g2
      rw [k2]; exact h1.new k o1 hk g1
    · exact h2.new k o' (by omega) ho'

theorem rk_push (w : FWorld) (o : FObs) (hk : o.kind ≠ .residual) : RK w (w.push o).1 := by
  refine ⟨good_push w o, by simp [FWorld.push], ?_, ?_, ?_⟩
  · intro h
    simp only [FWorld.push, List.length_append, List.length_singleton]
    rw [h, List.range_succ]
  · intro k o0 h0
    exact ⟨o0, (FCtor.keep_push w o).keep k o0 h0, rfl, fun _ => Or.inl rfl, fun _ => rfl⟩
  · intro k o' hk' ho'
    rcases push_heap_cases ho' with h1 | ⟨_, rfl⟩
    · have := (List.getElem?_eq_some_iff.1 h1).1; omega
    · exact hk

theorem rk_setObs (w : FWorld) (id : Nat) (o' : FObs)
    (h : ∀ o0, w.heap[id]? = some o0 → o'.kind = o0.kind ∧
      (o0.kind = .residual → o' = { o0 with graph := o0.graph0 }) ∧ (o0.kind = .isCompleted → o'.fts = o0.fts)) :
    RK w (w.setObs id o') := by
  refine ⟨good_setObs w id o', by simp [FWorld.setObs], ?_, ?_, ?_⟩
  · intro hr
    simp only [FWorld.setObs, List.length_set]; exact hr
  · intro k o hk
    by_cases hik : id = k
    · subst hik
      obtain ⟨a, b, c⟩ := h o hk
      exact ⟨o', setObs_heap_self (heap_lt hk) o', a, fun hr => Or.inr (b hr), c⟩
    · refine ⟨o, ?_, rfl, fun _ => Or.inl rfl, fun _ => rfl⟩
      simp only [FWorld.setObs]
      rw [List.getElem?_set_ne hik]; exact hk
  · intro k o1 hk ho1
    have := (List.getElem?_eq_some_iff.1 ho1).1
    simp only [FWorld.setObs, List.length_set] at this
    omega

theorem tunable_ne_residual {k : FKind} (h : k.tunable = true) : k ≠ .residual := by
  rintro rfl; cases h

theorem RK.of_edits {N : FObs → Prop} {lo : Nat} {w w' : FWorld} (e : Edits N lo w w') (hN : ∀ o, N o → o.kind ≠ .residual) :
    RK w w' := by
  induction e with
  | refl => exact RK.refl w
  | push o _ hn ih => exact ih.trans (rk_push _ o (hN o hn))
  | set o' _ _ _ ho ht ih =>
    refine ih.trans (rk_setObs _ _ o' fun o0 h0 => ?_)
    rw [ho] at h0; cases h0
    exact ⟨ht.kind, fun hr => absurd hr (tunable_ne_residual ht.1), fun _ => ht.fts⟩

theorem helper_ne_residual {I : Instance} (o : FObs) (h : HelperObs I o) : o.kind ≠ .residual :=
  tunable_ne_residual h.tunable

theorem rk_constructComposite (w : FWorld) (parts : Option (List Nat)) : RK w (w.constructComposite parts).1 := by
  unfold FWorld.constructComposite
  refine (rk_push w _ (by simp)).trans (rk_setObs _ _ _ fun o0 h0 => ?_)
  cases (push_heap_new w _).symm.trans h0
  exact ⟨rfl, nofun, nofun⟩

theorem RK.subAt {w w' : FWorld} {i : Nat} {need : List FT} (e : RK w w') (h : SubAt w i .isCompleted need) :
    SubAt w' i .isCompleted need := by
  obtain ⟨hs, ic, hic, hk, hf⟩ := h
  obtain ⟨ic', g1, g2, _, g4⟩ := e.old i ic hic
  exact ⟨good_mem e.good hs, ic', g1, g2.trans hk, fun ft hft => g4 hk ▸ hf ft hft⟩

theorem RK.residual_src {w w' : FWorld} (e : RK w w') {k : Nat} {o' : FObs} (ho' : w'.heap[k]? = some o')
    (hk' : o'.kind = .residual) :
    ∃ o, w.heap[k]? = some o ∧ o.kind = .residual ∧ (o' = o ∨ o' = { o with graph := o.graph0 }) := by
  have hlt : k < w.heap.length := Nat.lt_of_not_le fun hn => e.new k o' hn ho' hk'
  obtain ⟨o2, g2, k2, r2, _⟩ := e.old k _ (List.getElem?_eq_getElem hlt)
  rw [ho'] at g2; cases g2
  exact ⟨_, List.getElem?_eq_getElem hlt, k2.symm.trans hk', r2 (k2.symm.trans hk')⟩

theorem rk_callReset {w : FWorld} {id : Nat} (hid : id ∈ w.subs) : RK w (w.callReset id) := by
  cases ho : w.heap[id]? with
  | none => rw [callReset_none ho]; exact RK.refl w
  | some o =>
    cases ht : o.kind.tunable with
    | true => exact .of_edits (callReset_edits hid ho ht) helper_ne_residual
    | false =>
      rw [callReset_own ho ht]
      refine rk_setObs w id _ fun o0 h0 => ?_
      rw [ho] at h0; cases h0
      refine ⟨resetOwn_kind w o, fun hr => ?_, fun hc => ?_⟩
      · simp only [resetOwn, hr]
      · rw [hc] at ht; cases ht

theorem rk_reset (w : FWorld) : RK { w with s := JS.init w.cfg.I } w.reset :=
  foldl_subs (P := RK { w with s := JS.init w.cfg.I }) (fun _ _ _ => callReset_mem_subs)
    (fun _ _ hid h => h.trans (rk_callReset hid)) w.subs _ (fun _ h => h) (RK.refl _)

theorem reset_graph {w : FWorld} (hrng : w.subs = List.range w.heap.length) {k : Nat} {o' : FObs}
    (ho' : w.reset.heap[k]? = some o') (hk' : o'.kind = .residual) : o'.graph = o'.graph0 := by
  obtain ⟨_, hr⟩ := ownInv_fold_callReset (c := w.cfg) (T := (· = .residual)) (OK := fun _ o => o.graph = o.graph0)
    (fun _ hk => hk ▸ rfl) (fun _ o _ hk => by simp only [resetOwn, hk]) w.subs { w with s := JS.init w.cfg.I }
    (fun _ h => h) rfl
  rcases hr k o' ho' hk' with h | ⟨hn, h⟩
  · exact h
  · exact absurd (by rw [hrng]; exact List.mem_range.2 (List.getElem?_eq_some_iff.1 h).1) hn

/-- what C17 says about the graph of a residual observer, for the dispatcher state `s` -/
structure GraphOK (c : Cfg) (s : State) (o : FObs) : Prop where
  ginv : GInv o.graph
  nodes : o.graph.nodes = o.graph0.nodes
  anch : ∀ r ∈ unscheduledPure c.I s, Anch c.I o.graph r
  compl : ∀ r ∈ completedPure c s, o.graph.removed.getD (opId c.I r) true = true
  built : ∃ b : Builder, o.graph0 = build b c.I ∧
    (b ≠ .disjunctive → ∀ m, ∀ r ∈ unscheduledPure c.I s, onMachine c.I m r = true → AnchM c.I o.graph m r) ∧
    ((b = .agentTaskJobs ∨ b = .completeAgentTask) → ∀ r ∈ unscheduledPure c.I s, AnchJ c.I o.graph r)

/-- the observer a residual observer reads its completion flags from when an option is switched on: an `isCompleted` observer
with a smaller id, subscribed, observing the feature types of the options that are switched on -/
def PartsOK (w : FWorld) (k : Nat) (o : FObs) : Prop :=
  o.rmMach = true ∨ o.rmJob = true → ∃ i, o.parts.head? = some i ∧ i < k ∧
    SubAt w i .isCompleted ((if o.rmMach then [FT.machines] else []) ++ (if o.rmJob then [FT.jobs] else []))

/-- during its notification a residual observer with an option switched on finds, in the heap `heap` it reads, completion flags
of the state `s'` -/
def ReadsFlags (c : Cfg) (s' : State) (heap : List FObs) (o : FObs) : Prop :=
  o.rmMach = true ∨ o.rmJob = true → (o.rmMach = true → (flagSource heap o).col .machines = complMachSpec c.I s') ∧
    (o.rmJob = true → (flagSource heap o).col .jobs = complJobsSpec c.I s')

/-- the subscribers are all the heap entries, in increasing order; every residual observer satisfies `OK` for the dispatcher
state, its initial graph is a built graph, and it reads its flags from a suitable observer -/
structure RInv (c : Cfg) (OK : State → FObs → Prop) (w : FWorld) : Prop where
  rng : w.subs = List.range w.heap.length
  res : ∀ (k : Nat) (o : FObs), w.heap[k]? = some o → o.kind = .residual →
    OK w.s o ∧ (∃ b : Builder, o.graph0 = build b c.I) ∧ PartsOK w k o

theorem graphOK_fresh {c : Cfg} (hv : Valid c.I) (b : Builder) (o : FObs) (h0 : o.graph0 = build b c.I)
    (hg : o.graph = o.graph0) : GraphOK c (init c.I) o := by
  have hgb : o.graph = build b c.I := hg.trans h0
  exact ⟨hgb ▸ C17_built_inv b c.I, by rw [hg], fun r hr => hgb ▸ anch_build b c.I hv r (mem_allOps_of_unscheduled hr),
    fun r hr => (by rw [completed_init] at hr; cases hr), b, h0,
    fun hb m r hr hm => hgb ▸ anchM_build b hb c.I m r (mem_allOps_of_unscheduled hr) hm,
    fun hb r hr => hgb ▸ anchJ_build b hb c.I r (mem_allOps_of_unscheduled hr)⟩

theorem rinv_init (c : Cfg) (OK : State → FObs → Prop) : RInv c OK (FWorld.init c) :=
  ⟨rfl, fun k o h => by simp [FWorld.init] at h⟩

variable {c : Cfg} {OK : State → FObs → Prop}

section
variable (hfresh : ∀ b o, o.graph0 = build b c.I → o.graph = o.graph0 → OK (init c.I) o)
include hfresh

/-- after constructors and resets: the dispatcher is in its initial state, every residual observer either satisfied `OK` for the
initial state already or holds its initial graph -/
theorem rinv_of_rk {w w' : FWorld}
    (hrng : w.subs = List.range w.heap.length) (e : RK w w') (hs : w'.s = init c.I)
    (hres : ∀ (k : Nat) (o : FObs), w.heap[k]? = some o → o.kind = .residual →
      (∃ b : Builder, o.graph0 = build b c.I) ∧ PartsOK w k o ∧
        (OK (init c.I) o ∨ ∀ o', w'.heap[k]? = some o' → o'.kind = .residual → o'.graph = o'.graph0)) : RInv c OK w' := by
  refine ⟨e.rng hrng, fun k o' ho' hk' => ?_⟩
  obtain ⟨o, ho, hk, r⟩ := e.residual_src ho' hk'
  obtain ⟨⟨b, hb⟩, hp, hor⟩ := hres k o ho hk
  have hp' : PartsOK w' k o := fun h => (hp h).imp fun i hi => ⟨hi.1, hi.2.1, e.subAt hi.2.2⟩
  rw [hs]
  rcases r with rfl | rfl
  · refine ⟨?_, ⟨b, hb⟩, hp'⟩
    rcases hor with h | h
    · exact h
    · exact hfresh b o' hb (h o' ho' hk')
  · exact ⟨hfresh b _ hb rfl, ⟨b, hb⟩, hp'⟩

theorem rinv_ctor_rk {w w' : FWorld}
    (h : RInv c OK w) (hs : w.s = init c.I) (e : RK w w') : RInv c OK w' :=
  rinv_of_rk hfresh h.rng e (e.good.st.2.trans hs) fun k o ho hk =>
    have ⟨g, hb, hp⟩ := h.res k o ho hk
    ⟨hb, hp, Or.inl (hs ▸ g)⟩

theorem rinv_reset {w : FWorld}
    (hc : w.cfg = c) (h : RInv c OK w) : RInv c OK w.reset := by
  subst hc
  exact rinv_of_rk (w := { w with s := JS.init w.cfg.I }) hfresh h.rng (rk_reset w) (rk_reset w).good.st.2 fun k o ho hk =>
    have ⟨_, hb, hp⟩ := h.res k o ho hk
    ⟨hb, hp, Or.inr fun _ => reset_graph h.rng⟩

theorem rinv_push_residual {w : FWorld}
    (h : RInv c OK w) (hs : w.s = init c.I) (b : Builder) (o : FObs) (hg : o.graph = o.graph0) (hb : o.graph0 = build b c.I)
    (hp : PartsOK w w.heap.length o) : RInv c OK (w.push o).1 := by
  have e : Edits (fun _ => True) 0 w (w.push o).1 := Edits.refl.push o trivial
  have push : ∀ {k x}, PartsOK w k x → PartsOK (w.push o).1 k x :=
    fun hx hh => (hx hh).imp fun i hi => ⟨hi.1, hi.2.1, hi.2.2.edits e⟩
  refine ⟨e.range h.rng, fun k o' ho' hk' => ?_⟩
  rcases push_heap_cases ho' with h1 | ⟨rfl, rfl⟩
  · obtain ⟨a, hb', hp'⟩ := h.res k o' h1 hk'
    exact ⟨a, hb', push hp'⟩
  · exact ⟨hs ▸ hfresh b o' hb hg, ⟨b, hb⟩, push hp⟩

theorem rinv_constructResidual {w : FWorld}
    (hc : w.cfg = c) (h : RInv c OK w) (hs : w.s = init c.I) (b : Builder) (rm rj : Bool) :
    RInv c OK (w.constructResidual (build b w.cfg.I) rm rj).1 := by
  subst hc
  unfold FWorld.constructResidual
  split
  · exact h
  · simp only
    by_cases h2 : ((if rm then [FT.machines] else []) ++ (if rj then [FT.jobs] else [])).isEmpty = true
    · rw [if_pos h2]
      apply rinv_push_residual hfresh h hs b _ rfl rfl
      intro hor
      rcases hor with e | e <;> simp only at e <;> subst e <;> simp at h2
    · rw [if_neg h2]
      obtain ⟨e, hsub⟩ := getIsCompleted_edits w ((if rm then [FT.machines] else []) ++ (if rj then [FT.jobs] else []))
      have h' := rinv_ctor_rk hfresh h hs (.of_edits e helper_ne_residual)
      apply rinv_push_residual hfresh h' (e.s.trans hs) b _ rfl rfl
      refine fun _ => ⟨_, rfl, ?_, hsub⟩
      obtain ⟨_, ic, hic, _⟩ := hsub
      exact (List.getElem?_eq_some_iff.1 hic).1

theorem rinv_ctor {w : FWorld} (hc : w.cfg = c) (h : RInv c OK w) (hs : w.s = init c.I) (e : FEv) (he : e.isCtor = true) :
    RInv c OK (w.step e) := by
  cases e with
  | disp j p m => cases he
  | reset => cases he
  | construct k fts =>
    refine rinv_ctor_rk hfresh h hs (.of_edits (construct_edits w k fts) fun o ho => ?_)
    cases ho with
    | helper hh => exact helper_ne_residual _ hh
    | feature l est hk => exact tunable_ne_residual hk
    | _ => exact nofun
  | composite parts => exact rinv_ctor_rk hfresh h hs (rk_constructComposite w parts)
  | residual b rm rj => exact rinv_constructResidual hfresh hc h hs b rm rj

end

theorem unsched_mono {I : Instance} {s s' : State} {j p m : Nat} {op : Op} (hwf : WF I s) (hd : DispSpec I s s' j p m op)
    {r : OpRef} (hr : r ∈ unscheduledPure I s') : r ∈ unscheduledPure I s := by
  rw [mem_unscheduledPure] at hr ⊢
  refine ⟨hr.1, ?_⟩
  have h1 := (dispSpec_vectors hwf hd).2.1 r.1
  have h2 := hd.hidx
  have h3 := hr.2
  by_cases hj : r.1 = j
  · rw [if_pos hj] at h1
    rw [hj]; omega
  · rw [if_neg hj] at h1
    omega

theorem updObs_res (c : Cfg) (s : State) (x : SOp) (hp : List FObs) (o : FObs) (hk : o.kind = .residual) :
    updObs c s x hp o = { o with graph := residualUpdate c s hp o } := by
  simp only [updObs, hk]

/-- the notification loop, split at one subscriber: it is rewritten by `updObs` reading the heap as it is after the earlier
subscribers were notified -/
theorem fold_split (x : SOp) (l1 l2 : List Nat) (a : Nat) (w : FWorld) (hnd : (l1 ++ a :: l2).Nodup) (o : FObs)
    (ho : w.heap[a]? = some o) :
    ((l1 ++ a :: l2).foldl (fun w i => w.callUpdate x i) w).heap[a]? =
      some (updObs w.cfg w.s x (l1.foldl (fun w i => w.callUpdate x i) w).heap o) := by
  rw [List.foldl_append, List.foldl_cons]
  have hnd1 : l1.Nodup := (List.nodup_append.1 hnd).1
  have hnd2 : (a :: l2).Nodup := (List.nodup_append.1 hnd).2.1
  have ha1 : a ∉ l1 := fun hm => (List.nodup_append.1 hnd).2.2 a hm a (by simp) rfl
  obtain ⟨_, f2, f3, _, f5, _⟩ := fold_callUpdate_at x l1 w hnd1
  have ho1 : (l1.foldl (fun w i => w.callUpdate x i) w).heap[a]? = some o := by rw [f5 a ha1]; exact ho
  generalize l1.foldl (fun w i => w.callUpdate x i) w = W1 at f2 f3 ho1 ⊢
  rw [List.nodup_cons] at hnd2
  obtain ⟨_, _, _, _, g5, _⟩ := fold_callUpdate_at x l2 (W1.callUpdate x a) hnd2.2
  rw [g5 a hnd2.1, callUpdate_eq W1 x a o ho1, setObs_heap_self (heap_lt ho1), f2, f3]

theorem fold_range_at (x : SOp) (W0 : FWorld) (n k : Nat) (hk : k < n) (o : FObs) (ho : W0.heap[k]? = some o) :
    ((List.range n).foldl (fun w i => w.callUpdate x i) W0).heap[k]? =
      some (updObs W0.cfg W0.s x ((List.range k).foldl (fun w i => w.callUpdate x i) W0).heap o) := by
  have hsplit : List.range n = List.range k ++ k :: (List.range (n - (k + 1))).map (fun x => k + 1 + x) := by
    rw [show n = (k + 1) + (n - (k + 1)) by omega, List.range_add, List.range_succ, List.append_assoc]
    simp
  have hnd : (List.range n).Nodup := List.nodup_range
  rw [hsplit] at hnd ⊢
  exact fold_split x _ _ k W0 hnd o ho

theorem graphOK_update (c : Cfg) {s s' : State} {j p m : Nat} {op : Op} (hwf : WF c.I s)
    (hd : DispSpec c.I s s' j p m op) (heap : List FObs) (o : FObs) (h : GraphOK c s o) (hfl : ReadsFlags c s' heap o) :
    GraphOK c s' { o with graph := residualUpdate c s' heap o } := by
  obtain ⟨b, hb, hbM, hbJ⟩ := h.built
  have hnodes : ∀ k, k < numOps c.I → o.graph.nodes[k]? = some (.operation k) := by
    rw [h.nodes, hb]; exact RA.build_opnodes b c.I
  have hM : ∀ i ic, o.parts.head? = some i → heap[i]? = some ic → o.rmMach = true → ic.col .machines = complMachSpec c.I s' :=
    fun i ic hi hic hrm => flagSource_eq hi hic ▸ (hfl (Or.inl hrm)).1 hrm
  have hJ : ∀ i ic, o.parts.head? = some i → heap[i]? = some ic → o.rmJob = true → ic.col .jobs = complJobsSpec c.I s' :=
    fun i ic hi hic hrj => flagSource_eq hi hic ▸ (hfl (Or.inr hrj)).2 hrj
  refine ⟨residualUpdate_inv c s' heap o h.ginv, (RA.residualUpdate_nodes c s' heap o).trans h.nodes, ?_, ?_, b, hb, ?_, ?_⟩
  · intro r hr
    exact anch_residualUpdate c s' heap o h.ginv hnodes hM hJ r hr (h.anch r (unsched_mono hwf hd hr))
  · intro r hr
    exact C17_completed_removed c s' heap o r hr
  · intro hne mm r hr hm
    exact anchM_residualUpdate c s' heap o h.ginv hnodes hM hJ mm r hr hm (hbM hne mm r (unsched_mono hwf hd hr) hm)
  · intro hne r hr
    exact anchJ_residualUpdate c s' heap o h.ginv hnodes hM hJ r hr (hbJ hne r (unsched_mono hwf hd hr))

theorem ic_after {w : FWorld} {s' : State} {j p mm : Nat} {op : Op} (hf : FInv w)
    (hwf : WF w.cfg.I w.s) (hsp : DispSpec w.cfg.I w.s s' j p mm op)
    (hmono : ∀ r, r ∈ completedPure w.cfg w.s → r ∈ completedPure w.cfg s')
    {i : Nat} (hi : i ∈ w.subs) {ic : FObs} (hic : w.heap[i]? = some ic) (hk : ic.kind = .isCompleted) (hp : List FObs) :
    (updObs w.cfg s' (newEntry w.s j p mm op) hp ic).kind = .isCompleted ∧
    (updObs w.cfg s' (newEntry w.s j p mm op) hp ic).fts = ic.fts ∧
    (FT.machines ∈ ic.fts → (updObs w.cfg s' (newEntry w.s j p mm op) hp ic).col .machines = complMachSpec w.cfg.I s') ∧
    (FT.jobs ∈ ic.fts → (updObs w.cfg s' (newEntry w.s j p mm op) hp ic).col .jobs = complJobsSpec w.cfg.I s') := by
  have a := (updObs_kind w.cfg s' (newEntry w.s j p mm op) hp ic).trans hk
  have b : (updObs w.cfg s' (newEntry w.s j p mm op) hp ic).fts = ic.fts := by
    simp only [updObs, hk]
    exact (congrArg FObs.fts (frame_isCompletedUpdate w.cfg s' _ ic) :)
  obtain ⟨_, _, v⟩ := updObs_spec w.cfg hwf hsp hmono hp ic (hf.shape i ic hic) (hf.val i hi ic hic)
  exact ⟨a, b, fun h => (v.cmpMach a (by rw [b]; exact h)).2, fun h => (v.cmpJobs a (by rw [b]; exact h)).2⟩

theorem rinv_fold {w : FWorld} {s' : State} {j p mm : Nat} {op : Op} (hf : FInv w) (h : RInv w.cfg OK w)
    (hwf : WF w.cfg.I w.s) (hsp : DispSpec w.cfg.I w.s s' j p mm op)
    (hmono : ∀ r, r ∈ completedPure w.cfg w.s → r ∈ completedPure w.cfg s')
    (hupd : ∀ heap o, OK w.s o → ReadsFlags w.cfg s' heap o → OK s' { o with graph := residualUpdate w.cfg s' heap o }) :
    RInv w.cfg OK (w.subs.foldl (fun (W : FWorld) id => W.callUpdate (newEntry w.s j p mm op) id) { w with s := s' }) := by
  suffices key : RInv w.cfg OK ((List.range w.heap.length).foldl
      (fun (W : FWorld) id => W.callUpdate (newEntry w.s j p mm op) id) { w with s := s' }) by
    rw [← h.rng] at key; exact key
  obtain ⟨f1, f2, _, f4, _, f6⟩ :=
    fold_callUpdate_at (newEntry w.s j p mm op) (List.range w.heap.length) { w with s := s' } List.nodup_range
  have hfold := fold_range_at (newEntry w.s j p mm op) { w with s := s' } w.heap.length
  generalize (List.range w.heap.length).foldl (fun (W : FWorld) id => W.callUpdate (newEntry w.s j p mm op) id)
    { w with s := s' } = W at f1 f2 f4 f6 hfold
  refine ⟨by rw [f1, f4]; exact h.rng, fun k o' ho' hk' => ?_⟩
  have hlt : k < w.heap.length := f4 ▸ (List.getElem?_eq_some_iff.1 ho').1
  rw [hfold k hlt _ (List.getElem?_eq_getElem hlt)] at ho'
  cases ho'
  rw [updObs_kind] at hk'
  obtain ⟨g, hb, pp⟩ := h.res k _ (List.getElem?_eq_getElem hlt) hk'
  obtain ⟨_, _, _, _, _, g6⟩ :=
    fold_callUpdate_at (newEntry w.s j p mm op) (List.range k) { w with s := s' } List.nodup_range
  rw [updObs_res _ _ _ _ _ hk', f2]
  refine ⟨hupd _ _ g fun hor => ?_, hb, fun hor => ?_⟩
  · obtain ⟨i, hi, hik, his, ic, hic, hkic, hfts⟩ := pp hor
    obtain ⟨hp, hhp⟩ := g6 i (List.mem_range.2 hik) ic hic
    obtain ⟨_, _, fM, fJ⟩ := ic_after hf hwf hsp hmono his hic hkic hp
    rw [flagSource_eq hi hhp]
    exact ⟨fun hrm => fM (hfts _ (by simp [hrm])), fun hrj => fJ (hfts _ (by simp [hrj]))⟩
  · obtain ⟨i, hi, hik, his, ic, hic, hkic, hfts⟩ := pp hor
    obtain ⟨hp, hhp⟩ := f6 i (List.mem_range.2 (Nat.lt_trans hik hlt)) ic hic
    obtain ⟨a, b, _, _⟩ := ic_after hf hwf hsp hmono his hic hkic hp
    exact ⟨i, hi, hik, f1 ▸ his, _, hhp, a, fun ft hft => b ▸ hfts ft hft⟩

theorem rinv_dispatch (hv : Valid c.I) (hF : c.F = none ∨ PosDurI c.I)
    (hupd : ∀ {s s' : State} {j p mm : Nat} {op : Op} (evs' : List Ev), s' = run c evs' → CInv c.I s →
      DispSpec c.I s s' j p mm op → ∀ heap o, OK s o → ReadsFlags c s' heap o →
      OK s' { o with graph := residualUpdate c s' heap o })
    {w : FWorld} (hcfg : w.cfg = c) (hf : FInv w) (h : RInv c OK w) (j p : Nat) (m : Option Int) :
    RInv c OK (w.dispatch j p m).1 := by
  subst hcfg
  obtain ⟨evs, hevs⟩ := hf.reach
  have hc : CInv w.cfg.I w.s := by rw [hevs]; exact (inv_run hv evs).cinv
  rcases w.dispatch_cases hv hc j p m with e | ⟨s', mm, op, hdr, _, hsp, e⟩
  · rw [e]; exact h
  · rw [e]
    have hrun : s' = run w.cfg (evs ++ [.disp j p m]) := by
      rw [run_snoc, ← hevs]
      simp only [stepEv, hdr]
    have hmono : ∀ r, r ∈ completedPure w.cfg w.s → r ∈ completedPure w.cfg s' := by
      intro r hr
      rw [hrun]
      rw [hevs] at hr
      exact C06_completed_mono w.cfg hv hF evs j p m r hr
    exact rinv_fold hf h hc.wf hsp hmono (hupd _ hrun hc hsp)

/-- **residual observers in every reachable feature world**: a property that a residual observer holding a built graph has in the
initial state, and that one update reading completion flags of the new state carries across an accepted dispatch -/
theorem residual_run (c : Cfg) (hv : Valid c.I) (hF : c.F = none ∨ PosDurI c.I) {OK : State → FObs → Prop}
    (hfresh : ∀ b o, o.graph0 = build b c.I → o.graph = o.graph0 → OK (init c.I) o)
    (hupd : ∀ {s s' : State} {j p mm : Nat} {op : Op} (evs' : List Ev), s' = run c evs' → CInv c.I s →
      DispSpec c.I s s' j p mm op → ∀ heap o, OK s o → ReadsFlags c s' heap o →
      OK s' { o with graph := residualUpdate c s' heap o })
    {w : FWorld} (hw : Reached c w) (k : Nat) (o : FObs) (ho : w.heap[k]? = some o) (hk : o.kind = .residual) : OK w.s o := by
  obtain ⟨ctors, evs, hct, hnd, hev, rfl⟩ := hw.ex
  exact ((run_induct c hv hF (P := RInv c OK) (rinv_init c OK)
    (fun w e hc _ hs h he _ => rinv_ctor hfresh hc h hs e he)
    (fun w j p m hc hf h => rinv_dispatch hv hF hupd hc hf h j p m)
    (fun w hc _ h => rinv_reset hfresh hc h) ctors evs hct hnd hev).2.2.res k o ho hk).1

end RW

/-- **C17 on the whole feature world.**  With a residual graph updater attached, in every reachable feature world: the graph is
consistent, no unscheduled operation's node is removed, every completed operation's node is removed, the initial graph is a built
graph, and a machine / job node is removed only when all its operations are scheduled. -/
theorem C17_world (c : Cfg) (hv : Valid c.I) (hF : c.F = none ∨ PosDurI c.I) (w : FWorld) (hw : Reached c w)
    (id : Nat) (hid : id ∈ w.subs) (o : FObs) (ho : w.heap[id]? = some o) (hk : o.kind = .residual) :
    GInv o.graph ∧
    (∀ r ∈ unscheduledPure c.I w.s, o.graph.present (opId c.I r) = true) ∧
    (∀ r ∈ completedPure c w.s, o.graph.removed.getD (opId c.I r) true = true) ∧
    ∃ b : Builder, o.graph0 = build b c.I ∧
      (b ≠ .disjunctive → ∀ m, ∀ r ∈ unscheduledPure c.I w.s, onMachine c.I m r = true →
          o.graph.present (nodeIdOf o.graph (.machine m)) = true) ∧
      ((b = .agentTaskJobs ∨ b = .completeAgentTask) → ∀ r ∈ unscheduledPure c.I w.s,
          o.graph.present (nodeIdOf o.graph (.job r.1)) = true) := by
  have _ := hid
  have g := RW.residual_run c hv hF (OK := RW.GraphOK c) (fun b o => RW.graphOK_fresh hv b o)
    (fun _ _ hc hd heap o g hfl => RW.graphOK_update c hc.wf hd heap o g hfl) hw id o ho hk
  obtain ⟨b, hb, hM, hJ⟩ := g.built
  exact ⟨g.ginv, fun r hr => (g.anch r hr).1, g.compl, b, hb, fun hne m r hr hm => (hM hne m r hr hm).1,
    fun hne r hr => (hJ hne r hr).1⟩

/-! non-vacuity: the reachable world of `C11World`'s example has a subscribed residual graph updater (id 10, reading the
`isCompleted` observer 0), unscheduled operations and a completed operation, whose node is removed -/
set_option maxRecDepth 100000 in
example :
    let w := FWorld.run { I := c11Instance } (c11Ctors ++ c11Events)
    10 ∈ w.subs ∧ (w.heap[10]?.map fun o => (o.kind, o.parts, o.graph.removed)) =
        some (.residual, [0], [false, false, true, false, false, false, false]) ∧
      unscheduledPure c11Instance w.s = [(0, 0), (0, 1), (1, 2)] ∧
      completedPure { I := c11Instance } w.s = [(1, 0)] := by decide +kernel

end JS
