import JobShopProofs.EnvInv4
/-!
# The subscriber list of the feature world; the reward a dispatch appends

`SubsOK`: the subscriber list is duplicate free and points into the heap.  `Good w w'`: `w'` keeps `w`'s configuration and
dispatcher state, its subscribers as a prefix of its own, and passes `SubsOK` on.  Every constructor and callback is `Good`
(`Good.of_edits`); a reset is, from the world with the initial state (`good_reset`); a dispatch keeps all but the state
(`dispatch_keeps`).
`Env.step` returns `lastReward` of the reward observer after the dispatch: an accepted dispatch appends exactly one reward to
a subscribed reward observer (it is notified exactly once, and no other callback touches it), so the returned reward is the
one emitted for this very step (`dispatch_appends_one_reward`).
-/
namespace JS

theorem updObs_reward (c : Cfg) (s : State) (x : SOp) (hp : List FObs) {o : FObs}
    (hk : o.kind = .makespanReward ∨ o.kind = .idleReward) :
    ∃ r, (updObs c s x hp o).rewards = o.rewards ++ [r] ∧
      (o.kind = .makespanReward → r = o.curMakespan - max o.curMakespan x.end_) := by
  rcases hk with hk | hk
  · exact ⟨_, by simp only [updObs, hk], fun _ => rfl⟩
  · exact ⟨_, by simp only [updObs, hk]; rfl, fun h => by rw [hk] at h; cases h⟩

theorem fold_callUpdate_reward (x : SOp) (l : List Nat) (w : FWorld) (id : Nat) (o : FObs) (hnd : l.Nodup) (hid : id ∈ l)
    (ho : w.heap[id]? = some o) (hk : o.kind = .makespanReward ∨ o.kind = .idleReward) :
    ∃ o' r, (l.foldl (fun w i => w.callUpdate x i) w).heap[id]? = some o' ∧ o'.rewards = o.rewards ++ [r] ∧
      (o.kind = .makespanReward → r = o.curMakespan - max o.curMakespan x.end_) := by
  obtain ⟨hp, h⟩ := (fold_callUpdate_at x l w hnd).2.2.2.2.2 id hid o ho
  obtain ⟨r, h1, h2⟩ := updObs_reward w.cfg w.s x hp hk
  exact ⟨_, r, h, h1, h2⟩

/-- subscriber list well-formed: no duplicates, all in the heap -/
structure SubsOK (w : FWorld) : Prop where
  nodup : w.subs.Nodup
  valid : ∀ id ∈ w.subs, id < w.heap.length

theorem subsOK_init (c : Cfg) : SubsOK (FWorld.init c) := ⟨by simp [FWorld.init], by simp [FWorld.init]⟩

theorem subsOK_push {w : FWorld} (h : SubsOK w) (o : FObs) : SubsOK (w.push o).1 := by
  constructor
  · simp only [FWorld.push]
    rw [List.nodup_append]
    refine ⟨h.nodup, by simp, ?_⟩
    intro a ha b hb
    simp only [List.mem_singleton] at hb
    have := h.valid a ha; omega
  · intro id hid
    simp only [FWorld.push, List.mem_append, List.mem_singleton, List.length_append, List.length_singleton] at hid ⊢
    rcases hid with h1 | h1
    · have := h.valid id h1; omega
    · omega

theorem subsOK_setObs {w : FWorld} (h : SubsOK w) (id : Nat) (o : FObs) : SubsOK (w.setObs id o) :=
  ⟨h.nodup, fun i hi => by simp only [FWorld.setObs, List.length_set]; exact h.valid i hi⟩

/-- a dispatch request on the feature world: rejected, and nothing changes; or the dispatcher moves to `s'` as `DispSpec` says
and the subscribers are notified, in order, with the new entry -/
theorem FWorld.dispatch_cases (w : FWorld) (hv : Valid w.cfg.I) (hc : CInv w.cfg.I w.s) (j p : Nat) (m : Option Int) :
    w.dispatch j p m = (w, false) ∨ ∃ (s' : State) (mm : Nat) (op : Op), dispatchReq w.cfg.I w.s j p m = .ok s' ∧
      JS.dispatch w.cfg.I w.s j p mm = .ok s' ∧ DispSpec w.cfg.I w.s s' j p mm op ∧
      w.dispatch j p m =
        (w.subs.foldl (fun W id => W.callUpdate ⟨j, p, mm, startTime w.s j mm, op.dur⟩ id) { w with s := s' }, true) := by
  unfold FWorld.dispatch
  cases hdr : dispatchReq w.cfg.I w.s j p m with
  | error e => exact Or.inl rfl
  | ok s' =>
    obtain ⟨mm, op, hop, _, hdd⟩ := dispatchReq_ok hdr
    obtain ⟨op', hsp⟩ := dispatch_ok hdd
    obtain rfl : op = op' := Option.some.inj (hop.symm.trans hsp.hop)
    refine Or.inr ⟨s', mm, op, rfl, hdd, hsp, ?_⟩
    simp only [find_new_entry hc (hv j p op hop).2.2 hsp]

theorem dispatch_appends_one_reward' (w : FWorld) (hs : SubsOK w) (rew : Nat) (o : FObs) (ho : w.heap[rew]? = some o)
    (hk : o.kind = .makespanReward ∨ o.kind = .idleReward) (hsub : rew ∈ w.subs) (j p : Nat) (m : Option Int)
    (w' : FWorld) (hd : w.dispatch j p m = (w', true)) (hwf : WF w.cfg.I w.s) :
    ∃ o' r, w'.heap[rew]? = some o' ∧ o'.rewards = o.rewards ++ [r] ∧ o'.rewards.getLast? = some r := by
  unfold FWorld.dispatch at hd
  cases hdr : dispatchReq w.cfg.I w.s j p m with
  | error e => rw [hdr] at hd; cases hd
  | ok s' =>
    rw [hdr] at hd
    simp only at hd
    obtain ⟨mm, op, hop, _, hdd⟩ := dispatchReq_ok hdr
    obtain ⟨op', hsp⟩ := dispatch_ok hdd
    have hmlt := machine_lt w.cfg.I j p mm op' hsp.hop hsp.hm
    have hmem : (⟨j, p, mm, startTime w.s j mm, op'.dur⟩ : SOp) ∈ s'.sched.flatten := by
      rw [hsp.eq]
      exact (flatten_modify_perm w.s.sched mm _ (by rw [hwf.lenS]; exact hmlt)).mem_iff.2 (by simp)
    cases hfind : s'.sched.flatten.find? (fun x => x.job == j && x.pos == p) with
    | none => exact absurd (by simp) (List.find?_eq_none.1 hfind _ hmem)
    | some x =>
      rw [hfind] at hd
      simp only [Prod.mk.injEq, and_true] at hd
      subst hd
      obtain ⟨o', r, h1, h2, _⟩ := fold_callUpdate_reward x w.subs { w with s := s' } rew o hs.nodup hsub ho hk
      exact ⟨o', r, h1, h2, by rw [h2]; simp⟩

/-- **C13 / C18 (the step reward is the reward emitted for that step).** If the reward observer is subscribed, an
accepted dispatch on the feature world appends exactly one reward to it, which is then its last one: the one `Env.step` reads
(`lastReward`).  (What the reward is: `updObs_reward`, `RewW.relOK_upd`.) -/
theorem dispatch_appends_one_reward (w : FWorld) (hs : SubsOK w) (rew : Nat) (o : FObs) (ho : w.heap[rew]? = some o)
    (hk : o.kind = .makespanReward ∨ o.kind = .idleReward) (hsub : rew ∈ w.subs) (j p : Nat) (m : Option Int)
    (w' : FWorld) (hd : w.dispatch j p m = (w', true)) (hv : Valid w.cfg.I) (hc : CInv w.cfg.I w.s) :
    ∃ o' r, w'.heap[rew]? = some o' ∧ o'.rewards = o.rewards ++ [r] ∧ o'.rewards.getLast? = some r :=
  have _ := hv
  dispatch_appends_one_reward' w hs rew o ho hk hsub j p m w' hd hc.wf

structure Good (w w' : FWorld) : Prop where
  ok : SubsOK w → SubsOK w'
  pre : ∃ t, w'.subs = w.subs ++ t
  st : w'.cfg = w.cfg ∧ w'.s = w.s

theorem Good.refl (w : FWorld) : Good w w := ⟨id, ⟨[], by simp⟩, rfl, rfl⟩
theorem Good.trans {a b c : FWorld} (h1 : Good a b) (h2 : Good b c) : Good a c := by
  refine ⟨fun h => h2.ok (h1.ok h), ?_, h2.st.1.trans h1.st.1, h2.st.2.trans h1.st.2⟩
  obtain ⟨t1, e1⟩ := h1.pre
  obtain ⟨t2, e2⟩ := h2.pre
  exact ⟨t1 ++ t2, by rw [e2, e1, List.append_assoc]⟩

theorem good_push (w : FWorld) (o : FObs) : Good w (w.push o).1 :=
  ⟨fun h => subsOK_push h o, ⟨[w.heap.length], rfl⟩, rfl, rfl⟩
theorem good_setObs (w : FWorld) (id : Nat) (o : FObs) : Good w (w.setObs id o) :=
  ⟨fun h => subsOK_setObs h id o, ⟨[], by simp [FWorld.setObs]⟩, rfl, rfl⟩

theorem good_mem {w w' : FWorld} (g : Good w w') {k : Nat} (hk : k ∈ w.subs) : k ∈ w'.subs := by
  obtain ⟨t, ht⟩ := g.pre
  rw [ht]; exact List.mem_append_left _ hk

theorem Good.of_edits {N : FObs → Prop} {lo : Nat} {w w' : FWorld} (e : Edits N lo w w') : Good w w' := by
  induction e with
  | refl => exact Good.refl w
  | push o _ _ ih => exact ih.trans (good_push _ o)
  | set o' _ _ _ _ _ ih => exact ih.trans (good_setObs _ _ o')

theorem good_callUpdate (w : FWorld) (x : SOp) (id : Nat) : Good w (w.callUpdate x id) := by
  cases ho : w.heap[id]? with
  | none => rw [callUpdate_none x ho]; exact Good.refl w
  | some o => rw [callUpdate_eq w x id o ho]; exact good_setObs _ _ _

theorem good_callReset {w : FWorld} {id : Nat} (hid : id ∈ w.subs) : Good w (w.callReset id) := by
  cases ho : w.heap[id]? with
  | none => rw [callReset_none ho]; exact Good.refl w
  | some o =>
    cases ht : o.kind.tunable with
    | true => exact .of_edits (callReset_edits hid ho ht)
    | false => rw [callReset_own ho ht]; exact good_setObs _ _ _

theorem good_foldl (f : FWorld → Nat → FWorld) (hf : ∀ w id, Good w (f w id)) : ∀ (l : List Nat) (w : FWorld), Good w (l.foldl f w)
  | [], w => Good.refl w
  | a :: t, w => by simp only [List.foldl_cons]; exact (hf w a).trans (good_foldl f hf t _)

theorem good_reset (w : FWorld) : Good { w with s := JS.init w.cfg.I } w.reset :=
  foldl_subs (P := Good { w with s := JS.init w.cfg.I }) (fun _ _ _ => callReset_mem_subs)
    (fun _ _ hid h => h.trans (good_callReset hid)) w.subs _ (fun _ h => h) (Good.refl _)

theorem dispatch_keeps (w : FWorld) (j p : Nat) (m : Option Int) :
    (SubsOK w → SubsOK (w.dispatch j p m).1) ∧ (∃ t, (w.dispatch j p m).1.subs = w.subs ++ t) ∧
    (w.dispatch j p m).1.cfg = w.cfg ∧
    (Valid w.cfg.I → CInv w.cfg.I w.s → CInv w.cfg.I (w.dispatch j p m).1.s) := by
  unfold FWorld.dispatch
  cases hd : dispatchReq w.cfg.I w.s j p m with
  | error e => exact ⟨id, ⟨[], by simp⟩, rfl, fun _ h => h⟩
  | ok s' =>
    simp only
    have hc' : Valid w.cfg.I → CInv w.cfg.I w.s → CInv w.cfg.I s' := by
      intro hv hc
      obtain ⟨mm, op, hop, _, hdd⟩ := dispatchReq_ok hd
      obtain ⟨op', hsp⟩ := dispatch_ok hdd
      have := hsp.hop; rw [hop] at this; cases this
      exact cinv_dispatch (hv j p op hop).2.2 hc hsp
    cases (s'.sched.flatten.find? fun x => x.job == j && x.pos == p) with
    | none => exact ⟨fun h => ⟨h.nodup, h.valid⟩, ⟨[], by simp⟩, rfl, hc'⟩
    | some x =>
      simp only
      have g := good_foldl (fun w id => w.callUpdate x id) (fun w id => good_callUpdate w x id) w.subs { w with s := s' }
      refine ⟨fun h => g.ok ⟨h.nodup, h.valid⟩, g.pre, g.st.1, fun hv hc => ?_⟩
      rw [g.st.2]; exact hc' hv hc

theorem reset_keeps (w : FWorld) :
    (SubsOK w → SubsOK w.reset) ∧ (∃ t, w.reset.subs = w.subs ++ t) ∧ w.reset.cfg = w.cfg ∧
    CInv w.cfg.I w.reset.s := by
  have g := good_reset w
  refine ⟨fun h => g.ok ⟨h.nodup, h.valid⟩, g.pre, g.st.1, ?_⟩
  rw [g.st.2]; exact cinv_init w.cfg.I

theorem good_construct (w : FWorld) (kind : FKind) (fts : Option (List FT)) : Good w (w.construct kind fts).1 :=
  .of_edits (construct_edits w kind fts)

theorem good_constructComposite (w : FWorld) (parts : Option (List Nat)) : Good w (w.constructComposite parts).1 :=
  (good_push w _).trans (good_setObs _ _ _)

theorem good_constructResidual (w : FWorld) (g : Graph) (rm rj : Bool) : Good w (w.constructResidual g rm rj).1 :=
  .of_edits (constructResidual_edits w g rm rj)

end JS
