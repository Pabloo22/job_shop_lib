import JobShopProofs.CompositeShape
import JobShopProofs.EnvLemmas
/-!
# The heap invariant of the feature world

`HeapOK`: every single-column feature observer is shaped, every residual updater holds a consistent graph no larger
than its initial graph, every composite was assembled from shaped parts whose feature types are those its parts have
now.  `WExt w w'`: nothing ever changes an observer's kind, parts, initial graph or (single-column observers) feature
types.  Every operation of the feature world preserves `HeapOK` and extends the world in the sense of `WExt`.
-/
namespace JS

def FKind.single : FKind → Bool
  | .isReady | .earliestStart | .duration | .isScheduled | .positionInJob | .remainingOps | .isCompleted => true
  | _ => false

def CompOK (I : Instance) (heap : List FObs) (o : FObs) : Prop :=
  ∃ hp : List FObs, o.cols = compositeCols hp o.parts ∧
    ∀ i ∈ o.parts, ∃ p q, hp[i]? = some p ∧ heap[i]? = some q ∧ q.kind.single = true ∧ p.Shaped I ∧ p.fts = q.fts

structure ObsOK (I : Instance) (heap : List FObs) (o : FObs) : Prop where
  single : o.kind.single = true → o.Shaped I
  res : o.kind = .residual → GInv o.graph ∧ SizeLe o.graph o.graph0 ∧ GInv o.graph0
  comp : o.kind = .composite → CompOK I heap o

def HeapOK (w : FWorld) : Prop := ∀ (k : Nat) (o : FObs), w.heap[k]? = some o → ObsOK w.cfg.I w.heap o

structure WExt (w w' : FWorld) : Prop where
  cfg : w'.cfg = w.cfg
  step : ∀ (k : Nat) (o : FObs), w.heap[k]? = some o → ∃ o', w'.heap[k]? = some o' ∧ o'.kind = o.kind ∧ o'.parts = o.parts ∧
    o'.graph0 = o.graph0 ∧ (o.kind.single = true → o'.fts = o.fts)

theorem WExt.refl (w : FWorld) : WExt w w := ⟨rfl, fun _ o h => ⟨o, h, rfl, rfl, rfl, fun _ => rfl⟩⟩

theorem WExt.trans {a b c : FWorld} (h1 : WExt a b) (h2 : WExt b c) : WExt a c := by
  refine ⟨h2.cfg.trans h1.cfg, ?_⟩
  intro k o h
  obtain ⟨o1, g1, k1, p1, r1, f1⟩ := h1.step k o h
  obtain ⟨o2, g2, k2, p2, r2, f2⟩ := h2.step k o1 g1
  exact ⟨o2, g2, k2.trans k1, p2.trans p1, r2.trans r1, fun hs => (f2 (k1 ▸ hs)).trans (f1 hs)⟩

def KindAt (w : FWorld) (id : Nat) (k : FKind) : Prop := ∃ o, w.heap[id]? = some o ∧ o.kind = k

theorem KindAt.ext {w w' : FWorld} {id : Nat} {k : FKind} (h : KindAt w id k) (e : WExt w w') : KindAt w' id k := by
  obtain ⟨o, ho, hk⟩ := h
  obtain ⟨o', ho', hk', _⟩ := e.step id o ho
  exact ⟨o', ho', hk'.trans hk⟩

theorem CompOK.ext {I : Instance} {w w' : FWorld} {o : FObs} (h : CompOK I w.heap o) (e : WExt w w') :
    CompOK I w'.heap o := by
  obtain ⟨hp, hc, hall⟩ := h
  refine ⟨hp, hc, ?_⟩
  intro i hi
  obtain ⟨p, q, hp1, hq, hs, hsh, hf⟩ := hall i hi
  obtain ⟨q', hq', hk', _, _, hf'⟩ := e.step i q hq
  exact ⟨p, q', hp1, hq', hk' ▸ hs, hsh, hf.trans (hf' hs).symm⟩

theorem filterMap_fts_congr (h1 h2 : List FObs) : ∀ (l : List Nat),
    (∀ i ∈ l, ∃ p q, h1[i]? = some p ∧ h2[i]? = some q ∧ p.fts = q.fts) →
    (l.filterMap fun i => h1[i]?).map (·.fts) = (l.filterMap fun i => h2[i]?).map (·.fts)
  | [], _ => rfl
  | a :: t, h => by
    obtain ⟨p, q, hp, hq, hf⟩ := h a List.mem_cons_self
    simp only [List.filterMap_cons, hp, hq, List.map_cons, hf]
    rw [filterMap_fts_congr h1 h2 t fun i hi => h i (List.mem_cons_of_mem _ hi)]

theorem CompOK.shape {I : Instance} {heap : List FObs} {o : FObs} (h : CompOK I heap o) :
    (o.cols.map fun tc => (tc.1, matShape tc.2)) = shapeF I ((o.parts.filterMap fun i => heap[i]?).map (·.fts)) ∧
    ∀ tc ∈ o.cols, ∀ col ∈ tc.2, col.length = (tc.2.headD []).length := by
  obtain ⟨hp, hcols, hall⟩ := h
  have hsh : ∀ p ∈ o.parts.filterMap (fun i => hp[i]?), p.Shaped I := by
    intro p hp'
    obtain ⟨i, hi, hio⟩ := List.mem_filterMap.1 hp'
    obtain ⟨p', _, hpi, _, _, hps, _⟩ := hall i hi
    rw [hpi] at hio; cases hio; exact hps
  rw [hcols, ← filterMap_fts_congr hp heap o.parts fun i hi =>
    let ⟨p, q, hpi, hqi, _, _, hf⟩ := hall i hi
    ⟨p, q, hpi, hqi, hf⟩]
  exact compositeCols_shape hp o.parts hsh

theorem ObsOK.ext {w w' : FWorld} {o : FObs} (h : ObsOK w.cfg.I w.heap o) (e : WExt w w') :
    ObsOK w'.cfg.I w'.heap o := by
  rw [e.cfg]
  exact ⟨h.single, h.res, fun hc => (h.comp hc).ext e⟩

theorem setObs_ext {w : FWorld} {id : Nat} {o0 : FObs} (h0 : w.heap[id]? = some o0) (o' : FObs)
    (hrel : o'.kind = o0.kind ∧ o'.parts = o0.parts ∧ o'.graph0 = o0.graph0 ∧ (o0.kind.single = true → o'.fts = o0.fts)) :
    WExt w (w.setObs id o') := by
  refine ⟨rfl, fun k o hk => ?_⟩
  by_cases hik : id = k
  · subst hik
    cases h0.symm.trans hk
    exact ⟨o', setObs_heap_self (heap_lt hk) o', hrel⟩
  · exact ⟨o, (setObs_heap_ne w hik o').trans hk, rfl, rfl, rfl, fun _ => rfl⟩

theorem setObs_ok {w : FWorld} (hw : HeapOK w) {id : Nat} {o0 : FObs} (h0 : w.heap[id]? = some o0) (o' : FObs)
    (hrel : o'.kind = o0.kind ∧ o'.parts = o0.parts ∧ o'.graph0 = o0.graph0 ∧ (o0.kind.single = true → o'.fts = o0.fts))
    (hok : ObsOK w.cfg.I (w.heap.set id o') o') : HeapOK (w.setObs id o') ∧ WExt w (w.setObs id o') := by
  have hext := setObs_ext h0 o' hrel
  refine ⟨fun k o hk => ?_, hext⟩
  rcases setObs_heap_cases hk with ⟨rfl, rfl⟩ | ⟨_, hk'⟩
  · exact hok
  · exact (hw k o hk').ext hext

theorem single_not_res {k : FKind} (h : k.single = true) : k ≠ .residual ∧ k ≠ .composite := by
  cases k <;> simp [FKind.single] at h ⊢

theorem single_tunable {k : FKind} (h : k.single = true) : k.tunable = true := by
  cases k <;> first | rfl | cases h

theorem NewObs.kind_cases {w : FWorld} {kind : FKind} {o : FObs} (h : NewObs w kind o) :
    o.kind = kind ∨ o.kind.tunable = true := by
  cases h with
  | helper h => exact Or.inr h.tunable
  | history hk => exact Or.inl hk.symm
  | makespan hk => exact Or.inl hk.symm
  | idle hk => exact Or.inl hk.symm
  | feature l est hk => exact Or.inl rfl

theorem setObs_keeps {w : FWorld} (hw : HeapOK w) {id : Nat} {o0 o' : FObs} (h0 : w.heap[id]? = some o0)
    (hs : o0.kind.single = true) (hk : o0.Shaped w.cfg.I → Keeps w.cfg.I o0 o') :
    HeapOK (w.setObs id o') ∧ WExt w (w.setObs id o') := by
  replace hk := hk ((hw id o0 h0).single hs)
  have hks : o'.kind.single = true := hk.kind ▸ hs
  exact setObs_ok hw h0 o' ⟨hk.kind, hk.parts, hk.graph.2, fun _ => hk.fts⟩
    ⟨fun _ => hk.shaped, fun hr => absurd hr (single_not_res hks).1, fun hc => absurd hc (single_not_res hks).2⟩

/-- the kinds without an invariant clause: neither feature observers, nor composites, nor residual updaters -/
def FKind.plain (k : FKind) : Prop := k = .unscheduled ∨ k = .history ∨ k = .makespanReward ∨ k = .idleReward

theorem FKind.plain.not {k : FKind} (h : k.plain) : k.single = false ∧ k ≠ .residual ∧ k ≠ .composite := by
  rcases h with rfl | rfl | rfl | rfl <;> exact ⟨rfl, nofun, nofun⟩

theorem obsOK_plain (I : Instance) (heap : List FObs) (o : FObs) (hp : o.kind.plain) : ObsOK I heap o :=
  ⟨fun h => (by rw [hp.not.1] at h; cases h), fun h => absurd h hp.not.2.1, fun h => absurd h hp.not.2.2⟩

theorem setObs_plain {w : FWorld} (hw : HeapOK w) {id : Nat} {o0 o' : FObs} (h0 : w.heap[id]? = some o0)
    (hp : o0.kind.plain) (hsame : o'.kind = o0.kind ∧ o'.parts = o0.parts ∧ o'.graph0 = o0.graph0) :
    HeapOK (w.setObs id o') ∧ WExt w (w.setObs id o') :=
  setObs_ok hw h0 o' ⟨hsame.1, hsame.2.1, hsame.2.2, fun h => by rw [hp.not.1] at h; cases h⟩
    (obsOK_plain _ _ o' (hsame.1.symm ▸ hp))

theorem push_ext (w : FWorld) (o : FObs) : WExt w (w.push o).1 :=
  ⟨rfl, fun k o' hk => ⟨o', (push_heap_old w o (heap_lt hk)).trans hk, rfl, rfl, rfl, fun _ => rfl⟩⟩

theorem push_ok {w : FWorld} (hw : HeapOK w) (o : FObs) (hok : ObsOK w.cfg.I (w.heap ++ [o]) o) :
    HeapOK (w.push o).1 ∧ WExt w (w.push o).1 ∧ (w.push o).1.heap[(w.push o).2]? = some o := by
  have hext := push_ext w o
  refine ⟨fun k o' hk => ?_, hext, push_heap_new w o⟩
  rcases push_heap_cases hk with h | ⟨_, rfl⟩
  · exact (hw k o' h).ext hext
  · exact hok

theorem push_single_ok {w : FWorld} (hw : HeapOK w) (base : FObs) (hs : base.kind.single = true)
    (hb : base.Shaped w.cfg.I) :
    HeapOK (w.push base).1 ∧ WExt w (w.push base).1 ∧ KindAt (w.push base).1 (w.push base).2 base.kind := by
  obtain ⟨h1, e1, g1⟩ := push_ok hw base
    ⟨fun _ => hb, fun h => absurd h (single_not_res hs).1, fun h => absurd h (single_not_res hs).2⟩
  exact ⟨h1, e1, base, g1, rfl⟩

theorem push_plain_ok {w : FWorld} (hw : HeapOK w) (o : FObs) (hp : o.kind.plain) :
    HeapOK (w.push o).1 ∧ WExt w (w.push o).1 ∧ KindAt (w.push o).1 (w.push o).2 o.kind := by
  obtain ⟨h1, e1, g1⟩ := push_ok hw o (obsOK_plain _ _ _ hp)
  exact ⟨h1, e1, o, g1, rfl⟩

theorem getUnscheduled_ok {w : FWorld} (hw : HeapOK w) :
    HeapOK w.getUnscheduled.1 ∧ WExt w w.getUnscheduled.1 ∧ KindAt w.getUnscheduled.1 w.getUnscheduled.2 .unscheduled := by
  unfold FWorld.getUnscheduled
  cases hf : w.findObs .unscheduled [] with
  | some id => exact ⟨hw, WExt.refl w, findObs_kind hf⟩
  | none =>
    exact push_plain_ok hw
      { kind := .unscheduled, deques := w.s.sched.flatten.foldl (fun d x => popJobF d x.job) (fullDequesF w.cfg.I) }
      (Or.inl rfl)

theorem shaped_of_heapOK {w : FWorld} (hw : HeapOK w) {id : Nat} {o : FObs} (h : w.heap[id]? = some o)
    (hs : o.kind.single = true) : o.Shaped w.cfg.I := (hw id o h).single hs

theorem newRemaining_ok {w : FWorld} (hw : HeapOK w) (fts : List FT) (hnd : fts.Nodup) :
    HeapOK (w.newRemaining fts).1 ∧ WExt w (w.newRemaining fts).1 ∧
      KindAt (w.newRemaining fts).1 (w.newRemaining fts).2 .remainingOps := by
  unfold FWorld.newRemaining
  simp only
  obtain ⟨h1, e1, g1⟩ := push_ok hw (({ kind := .remainingOps, fts := fts } : FObs).zeroed w.cfg.I)
    ⟨fun _ => zeroed_shaped _ _ hnd, nofun, nofun⟩
  generalize hw1 : (w.push (({ kind := .remainingOps, fts := fts } : FObs).zeroed w.cfg.I)) = r1 at h1 e1 g1
  obtain ⟨w1, id⟩ := r1
  simp only at h1 e1 g1 ⊢
  obtain ⟨h2, e2, _⟩ := getUnscheduled_ok h1
  generalize w1.getUnscheduled = r2 at h2 e2
  obtain ⟨w2, uid⟩ := r2
  simp only at h2 e2 ⊢
  obtain ⟨o2, ho2, hk2, _, _, _⟩ := e2.step id _ g1
  have hks : o2.kind.single = true := by rw [hk2]; rfl
  rw [getD_of_get ho2]
  obtain ⟨h3, e3⟩ := setObs_keeps h2 ho2 hks (keeps_remainingInit w2.cfg (w2.heap.getD uid default).deques)
  exact ⟨h3, e1.trans (e2.trans e3), KindAt.ext ⟨o2, ho2, hk2⟩ e3⟩

theorem getRemaining_ok {w : FWorld} (hw : HeapOK w) (need : List FT) (hnd : need.Nodup) :
    HeapOK (w.getRemaining need).1 ∧ WExt w (w.getRemaining need).1 ∧
      KindAt (w.getRemaining need).1 (w.getRemaining need).2 .remainingOps := by
  unfold FWorld.getRemaining
  cases hf : w.findObs .remainingOps need with
  | some id => exact ⟨hw, WExt.refl w, findObs_kind hf⟩
  | none => exact newRemaining_ok hw need hnd

theorem isCompletedInit_ok {w : FWorld} (hw : HeapOK w) {id : Nat} (hk : KindAt w id .isCompleted) :
    HeapOK (w.isCompletedInit id) ∧ WExt w (w.isCompletedInit id) := by
  obtain ⟨o0, h0, hk0⟩ := hk
  have hs0 : o0.kind.single = true := by rw [hk0]; rfl
  have hsh0 := shaped_of_heapOK hw h0 hs0
  unfold FWorld.isCompletedInit
  simp only
  rw [getD_of_get h0]
  obtain ⟨h1, e1⟩ := setObs_keeps hw h0 hs0 fun _ => keeps_zeroed (I := w.cfg.I) hsh0.wf.nodup
  generalize w.setObs id (o0.zeroed w.cfg.I) = w1 at h1 e1
  have hnd : ((o0.zeroed w.cfg.I).fts.filter (· != .operations)).Nodup := hsh0.wf.nodup.filter _
  obtain ⟨h2, e2, _⟩ := getRemaining_ok h1 _ hnd
  generalize w1.getRemaining ((o0.zeroed w.cfg.I).fts.filter (· != .operations)) = r2 at h2 e2
  obtain ⟨w2, rid⟩ := r2
  simp only at h2 e2 ⊢
  obtain ⟨o2, ho2, hk2, _⟩ := (e1.trans e2).step id o0 h0
  have hs2 : o2.kind.single = true := by rw [hk2]; exact hs0
  rw [getD_of_get ho2]
  obtain ⟨h3, e3⟩ := setObs_keeps h2 ho2 hs2 fun hsh => keeps_withRem hsh _ _
  exact ⟨h3, e1.trans (e2.trans e3)⟩

theorem resetRemaining_ok {w : FWorld} (hw : HeapOK w) {id : Nat} (hk : KindAt w id .remainingOps) :
    HeapOK (w.resetRemaining id) ∧ WExt w (w.resetRemaining id) := by
  unfold FWorld.resetRemaining
  simp only
  obtain ⟨h1, e1, ⟨u, hu, hku⟩⟩ := getUnscheduled_ok hw
  generalize w.getUnscheduled = r1 at h1 e1 hu
  obtain ⟨w1, uid⟩ := r1
  simp only at h1 e1 hu ⊢
  rw [getD_of_get hu]
  obtain ⟨h2, e2⟩ := setObs_plain h1 hu (o' := { u with deques := fullDequesF w1.cfg.I }) (Or.inl hku) ⟨rfl, rfl, rfl⟩
  generalize w1.setObs uid { u with deques := fullDequesF w1.cfg.I } = w2 at h2 e2
  obtain ⟨o2, ho2, hk2⟩ := hk.ext (e1.trans e2)
  have hs2 : o2.kind.single = true := by rw [hk2]; rfl
  rw [getD_of_get ho2]
  obtain ⟨h3, e3⟩ := setObs_keeps h2 ho2 hs2 fun hsh =>
    (keeps_zeroed hsh.wf.nodup).trans
      (keeps_remainingInit w2.cfg (w2.heap.getD uid default).deques (zeroed_shaped _ _ hsh.wf.nodup))
  exact ⟨h3, e1.trans (e2.trans e3)⟩

end JS
