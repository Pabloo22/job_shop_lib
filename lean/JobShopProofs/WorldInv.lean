import JobShopProofs.WorldLemmas
import JobShopProofs.Properties.C06
/-!
# World invariant and the effect of each world event
-/
namespace JS

structure WInv (w : World) : Prop where
  inv : Inv w.cfg w.s
  nodup : w.subs.Nodup
  valid : ∀ id ∈ w.subs, id < w.heap.length

theorem winv_init (c : Cfg) : WInv (World.init c) :=
  ⟨inv_init c, by simp [World.init], by simp [World.init]⟩

theorem World.dispatch_accepted {w : World} (hw : WInv w) (hv : Valid w.cfg.I) {j p : Nat} {m : Option Int}
    {s' : State} (hd : dispatchReq w.cfg.I w.s j p m = .ok s') :
    ∃ x : SOp, x ∈ s'.sched.flatten ∧ x.job = j ∧ x.pos = p ∧
      (w.dispatch j p m).2 = .ok ∧
      (w.dispatch j p m).1.cfg = w.cfg ∧
      (∃ k, (w.dispatch j p m).1.s = setCache s' k) ∧ CacheOK w.cfg (w.dispatch j p m).1.s ∧
      (w.dispatch j p m).1.subs = w.subs ∧
      (w.dispatch j p m).1.heap.length = w.heap.length ∧
      (∀ i, i ∉ w.subs → (w.dispatch j p m).1.heap[i]? = w.heap[i]?) ∧
      (∀ i ∈ w.subs, ∀ o, w.heap[i]? = some o →
        (w.dispatch j p m).1.heap[i]? = some (Obs.updateSpec w.cfg s' i x o).1) ∧
      ((w.dispatch j p m).1.trace = w.trace ++ w.subs.flatMap fun id => match w.heap[id]? with
        | some o => (Obs.updateSpec w.cfg s' id x o).2 | none => []) ∧
      (w.dispatch j p m).1.accepted = w.accepted ++ [x] := by
  obtain ⟨mm, op, _, hsp⟩ := dispatchReq_spec hd
  have hfind := find_new_entry hw.inv.cinv (hv j p op hsp.hop).2.2 hsp
  obtain ⟨hk, hok, hlen, hother, hmem, htr⟩ := notifyAll_round (update_callOK w.cfg s' _)
    (cacheOK_empty _ _ hsp.cache) hw.nodup hw.valid w.trace
  simp only [World.dispatch, hd, hfind]
  exact ⟨_, List.mem_of_find?_eq_some hfind, rfl, rfl, trivial, trivial, hk, hok, trivial, hlen, hother, hmem, htr,
    rfl⟩

theorem World.dispatch_rejected (w : World) {j p : Nat} {m : Option Int} {e : Err}
    (hd : dispatchReq w.cfg.I w.s j p m = .error e) : w.dispatch j p m = (w, .raised e) := by
  simp [World.dispatch, hd]

theorem World.reset_spec {w : World} (hw : WInv w) :
    w.reset.cfg = w.cfg ∧ (∃ k, w.reset.s = setCache (JS.init w.cfg.I) k) ∧ CacheOK w.cfg w.reset.s ∧
    w.reset.subs = w.subs ∧ w.reset.heap.length = w.heap.length ∧
    (∀ i, i ∉ w.subs → w.reset.heap[i]? = w.heap[i]?) ∧
    (∀ i ∈ w.subs, ∀ o, w.heap[i]? = some o → w.reset.heap[i]? = some (Obs.resetSpec w.cfg (JS.init w.cfg.I) i o).1) ∧
    (w.reset.trace = w.trace ++ w.subs.flatMap fun id => match w.heap[id]? with
      | some o => (Obs.resetSpec w.cfg (JS.init w.cfg.I) id o).2 | none => []) ∧
    w.reset.accepted = [] := by
  obtain ⟨hk, hok, hlen, hother, hmem, htr⟩ := notifyAll_round (reset_callOK w.cfg (JS.init w.cfg.I))
    (cacheOK_empty _ _ rfl) hw.nodup hw.valid w.trace
  exact ⟨rfl, hk, hok, rfl, hlen, hother, hmem, htr, rfl⟩

theorem WInv.push {w : World} (hw : WInv w) (o : Obs) :
    WInv { w with subs := w.subs ++ [w.heap.length], heap := w.heap ++ [o] } := by
  refine ⟨hw.inv, List.nodup_append.2 ⟨hw.nodup, List.pairwise_singleton _ _, ?_⟩, ?_⟩
  · intro a ha b hb
    rw [List.mem_singleton.1 hb]
    exact Nat.ne_of_lt (hw.valid a ha)
  · intro id hid
    rw [List.length_append]
    rcases List.mem_append.1 hid with h | h
    · exact Nat.lt_add_right _ (hw.valid id h)
    · rw [List.mem_singleton.1 h]; exact Nat.lt_add_one _

/-- What an event that notifies nobody may change: the memo, the subscriber list, and the heap beyond its
present end. -/
structure World.Frame (w w' : World) : Prop where
  winv : WInv w'
  cfg : w'.cfg = w.cfg
  s : ∃ k, w'.s = setCache w.s k
  accepted : w'.accepted = w.accepted
  heap : ∀ (i : Nat) o, w.heap[i]? = some o → w'.heap[i]? = some o

theorem World.Frame.refl {w : World} (hw : WInv w) : w.Frame w :=
  ⟨hw, rfl, ⟨w.s.cache, rfl⟩, rfl, fun _ _ h => h⟩

theorem World.Frame.append {w : World} (o : Obs) {subs : List Nat}
    (hw : WInv { w with subs := subs, heap := w.heap ++ [o] }) :
    w.Frame { w with subs := subs, heap := w.heap ++ [o] } :=
  ⟨hw, rfl, ⟨w.s.cache, rfl⟩, rfl, fun _ _ h =>
    (List.getElem?_append_left (List.getElem?_eq_some_iff.1 h).1).trans h⟩

theorem World.construct_frame {w : World} (hw : WInv w) (k : ObsKind) (t : Nat) :
    w.Frame (w.construct k t).1 ∧ ∀ i ∈ w.subs, i ∈ (w.construct k t).1.subs := by
  unfold World.construct
  split
  · exact ⟨.refl hw, fun _ h => h⟩
  · exact ⟨.append _ (hw.push _), fun _ h => List.mem_append_left _ h⟩

theorem World.step_cases {w : World} (hw : WInv w) (e : WEv) :
    (∃ j p m s', e = .disp j p m ∧ dispatchReq w.cfg.I w.s j p m = .ok s') ∨ e = .reset ∨
    (w.Frame (w.step e) ∧ ∀ i ∈ w.subs, e ≠ .unsub i → i ∈ (w.step e).subs) := by
  have same : w.Frame w ∧ ∀ i ∈ w.subs, i ∈ w.subs := ⟨.refl hw, fun _ h => h⟩
  have weaken : ∀ {w' : World}, (w.Frame w' ∧ ∀ i ∈ w.subs, i ∈ w'.subs) →
      w.Frame w' ∧ ∀ i ∈ w.subs, e ≠ .unsub i → i ∈ w'.subs := fun h => ⟨h.1, fun i hi _ => h.2 i hi⟩
  cases e with
  | disp j p m =>
    cases hd : dispatchReq w.cfg.I w.s j p m with
    | ok s' => exact .inl ⟨j, p, m, s', rfl, hd⟩
    | error e =>
      refine .inr (.inr (weaken ?_))
      simp only [World.step, World.dispatch_rejected w hd]
      exact same
  | reset => exact .inr (.inl rfl)
  | query q =>
    obtain ⟨_, hok, k, hk⟩ := ask_ok w.cfg w.s hw.inv.cache q
    exact .inr (.inr ⟨⟨⟨inv_of_setCache hw.inv.cinv hk hok, hw.nodup, hw.valid⟩, rfl, ⟨k, hk⟩, rfl,
      fun _ _ h => h⟩, fun _ h _ => h⟩)
  | construct k => exact .inr (.inr (weaken (construct_frame hw k 0)))
  | constructTagged k t => exact .inr (.inr (weaken (construct_frame hw k t)))
  | constructDetached k =>
    refine .inr (.inr (weaken ?_))
    simp only [World.step, World.constructDetached]
    split
    · exact same
    · exact ⟨.append _ ⟨hw.inv, hw.nodup, fun i hi => by
        rw [List.length_append]; exact Nat.lt_add_right _ (hw.valid i hi)⟩, fun _ h => h⟩
  | createOrGet k =>
    refine .inr (.inr (weaken ?_))
    simp only [World.step, World.createOrGet]
    split
    · exact same
    · exact construct_frame hw k 0
  | createOrGetCond k t =>
    refine .inr (.inr (weaken ?_))
    simp only [World.step, World.createOrGetCond]
    split
    · exact same
    · exact construct_frame hw k t
  | unsub id =>
    refine .inr (.inr ?_)
    simp only [World.step, World.unsubscribe]
    split
    · exact ⟨⟨⟨hw.inv, hw.nodup.erase _, fun i hi => hw.valid i (List.mem_of_mem_erase hi)⟩, rfl,
        ⟨w.s.cache, rfl⟩, rfl, fun _ _ h => h⟩,
        fun i hi hne => (List.mem_erase_of_ne fun h => hne (congrArg WEv.unsub h).symm).2 hi⟩
    · exact weaken same
  | resub id =>
    refine .inr (.inr (weaken ?_))
    simp only [World.step, World.resubscribe]
    split
    · exact same
    · rename_i hcond
      simp only [Bool.or_eq_true, List.contains_eq_mem, decide_eq_true_eq, not_or, Nat.not_le] at hcond
      refine ⟨⟨⟨hw.inv, List.nodup_append.2 ⟨hw.nodup, List.pairwise_singleton _ _, ?_⟩, ?_⟩, rfl, ⟨w.s.cache, rfl⟩,
        rfl, fun _ _ h => h⟩, fun _ h => List.mem_append_left _ h⟩
      · intro a ha b hb hab
        rw [List.mem_singleton.1 hb] at hab
        exact hcond.1 (hab ▸ ha)
      · intro i hi
        rcases List.mem_append.1 hi with h | h
        · exact hw.valid i h
        · rw [List.mem_singleton.1 h]; exact hcond.2

theorem winv_step {w : World} (hw : WInv w) (hv : Valid w.cfg.I) (e : WEv) :
    WInv (w.step e) ∧ (w.step e).cfg = w.cfg := by
  rcases World.step_cases hw e with ⟨j, p, m, s', rfl, hd⟩ | rfl | ⟨hf, _⟩
  · obtain ⟨x, _, _, _, _, hcfg, ⟨k, hk⟩, hok, hsubs, hlen, _⟩ := World.dispatch_accepted hw hv hd
    have hinv := inv_of_setCache (inv_dispatchReq hv hw.inv hd).cinv hk hok
    exact ⟨⟨hcfg.symm ▸ hinv, hsubs ▸ hw.nodup, hsubs ▸ hlen ▸ hw.valid⟩, hcfg⟩
  · obtain ⟨hcfg, ⟨k, hk⟩, hok, hsubs, hlen, _⟩ := World.reset_spec hw
    have hinv := inv_of_setCache (cinv_init w.cfg.I) hk hok
    exact ⟨⟨hcfg.symm ▸ hinv, hsubs ▸ hw.nodup, hsubs ▸ hlen ▸ hw.valid⟩, hcfg⟩
  · exact ⟨hf.winv, hf.cfg⟩

theorem winv_run (c : Cfg) (hv : Valid c.I) (evs : List WEv) :
    WInv (World.run c evs) ∧ (World.run c evs).cfg = c :=
  List.foldlRecOn evs World.step (motive := fun w => WInv w ∧ w.cfg = c) ⟨winv_init c, rfl⟩
    fun _ ⟨hw, hc⟩ e _ => let ⟨h1, h2⟩ := winv_step hw (hc ▸ hv) e; ⟨h1, h2.trans hc⟩

end JS
