import JobShopModel.Env
import JobShopProofs.Properties.C19
/-!
# A refusing generator (C19, C18)

`generate()` draws from the generator's own `random.Random`.  When it raises in the middle, the draws made before the
failing call stay consumed, the name counter is not advanced, and nothing else of the generator changes.  The model
carries the draws left at the moment of the failure in the error (`GenFail.draws`); `GenState.next` and
`MultiEnv.reset` put them into the generator state.
-/
namespace JS

/-- `d` is what is left of `draws` after some number of draws -/
def IsDrop (d draws : List Nat) : Prop := ∃ k, d = draws.drop k

theorem IsDrop.refl (draws : List Nat) : IsDrop draws draws := ⟨0, rfl⟩

theorem IsDrop.tail (draws : List Nat) : IsDrop draws.tail draws := ⟨1, by simp⟩

theorem IsDrop.trans {a b c : List Nat} (h1 : IsDrop a b) (h2 : IsDrop b c) : IsDrop a c := by
  obtain ⟨k1, rfl⟩ := h1
  obtain ⟨k2, rfl⟩ := h2
  exact ⟨k2 + k1, by rw [List.drop_drop]⟩

/-- the draws a call leaves behind, whether it returns or raises -/
def rest {α : Type} (r : Except GenFail (α × List Nat)) : List Nat :=
  match r with
  | .error f => f.draws
  | .ok (_, d) => d

theorem randintN_rest (a b : Nat) (draws : List Nat) : IsDrop (rest (randintN a b draws)) draws := by
  unfold randintN
  split
  · exact IsDrop.tail draws
  · exact IsDrop.refl draws

theorem randintI_rest (a b : Int) (draws : List Nat) : IsDrop (rest (randintI a b draws)) draws := by
  unfold randintI
  split
  · exact IsDrop.tail draws
  · exact IsDrop.refl draws

theorem choiceN_rest (seq draws : List Nat) : IsDrop (rest (choiceN seq draws)) draws := by
  unfold choiceN
  split
  · exact IsDrop.refl draws
  · exact IsDrop.tail draws

theorem chooseMany_rest : ∀ (k : Nat) (avail draws : List Nat), IsDrop (rest (chooseMany k avail draws)) draws
  | 0, _, draws => IsDrop.refl draws
  | k + 1, avail, draws => by
    have h1 := choiceN_rest avail draws
    unfold chooseMany
    split
    · next hc => rw [hc] at h1; exact h1
    · next m d1 hc =>
      rw [hc] at h1
      have h2 := chooseMany_rest k (avail.erase m) d1
      split <;> (rename_i hm; rw [hm] at h2; exact h2.trans h1)

/-- the draws `create_random_operation` leaves behind -/
def restOp (r : Except GenFail (Op × List Nat × List Nat)) : List Nat :=
  match r with
  | .error f => f.draws
  | .ok (_, _, d) => d

theorem genOp_rest (p : GenParams) (avail draws : List Nat) : IsDrop (restOp (genOp p avail draws)) draws := by
  have h1 := randintI_rest p.durRange.1 p.durRange.2 draws
  unfold genOp
  split
  · next hr => rw [hr] at h1; exact h1
  · next dur d1 hr =>
    rw [hr] at h1
    split
    · have h2 := randintN_rest p.mpo.1 p.mpo.2 d1
      split
      · next hk => rw [hk] at h2; exact h2.trans h1
      · next k d2 hk =>
        rw [hk] at h2
        have h3 := chooseMany_rest k avail d2
        split <;> (rename_i hm; rw [hm] at h3; exact (h3.trans h2).trans h1)
    · have h2 := choiceN_rest avail d1
      split <;> (rename_i hc; rw [hc] at h2; exact h2.trans h1)

theorem genJob_rest (p : GenParams) : ∀ (n : Nat) (avail draws : List Nat), IsDrop (rest (genJob p n avail draws)) draws
  | 0, _, draws => IsDrop.refl draws
  | n + 1, avail, draws => by
    have h1 := genOp_rest p avail draws
    unfold genJob
    split
    · next ho => rw [ho] at h1; exact h1
    · next op avail' d1 ho =>
      rw [ho] at h1
      have h2 := genJob_rest p n avail' d1
      split <;> (rename_i hj; rw [hj] at h2; exact h2.trans h1)

theorem genJobs_rest (p : GenParams) (nm : Nat) : ∀ (n : Nat) (draws : List Nat), IsDrop (rest (genJobs p nm n draws)) draws
  | 0, draws => IsDrop.refl draws
  | n + 1, draws => by
    have h1 := genJob_rest p nm (List.range nm) draws
    unfold genJobs
    split
    · next hj => rw [hj] at h1; exact h1
    · next job d1 hj =>
      rw [hj] at h1
      have h2 := genJobs_rest p nm n d1
      split <;> (rename_i hjs; rw [hjs] at h2; exact h2.trans h1)

/-- the draws `generate()` leaves behind -/
def restGen (r : Except GenFail (Instance × Nat × List Nat)) : List Nat :=
  match r with
  | .error f => f.draws
  | .ok (_, _, d) => d

theorem generate_rest (p : GenParams) (draws : List Nat) : IsDrop (restGen (generate p draws)) draws := by
  have h1 := randintN_rest p.jobsRange.1 p.jobsRange.2 draws
  unfold generate
  split
  · next hj => rw [hj] at h1; exact h1
  · next nj d1 hj =>
    rw [hj] at h1
    simp only
    generalize (if p.allowLess = true then p.machinesRange.2 else min nj p.machinesRange.2) = maxM
    have h2 := randintN_rest p.machinesRange.1 maxM d1
    split
    · next hm => rw [hm] at h2; exact h2.trans h1
    · next nm d2 hm =>
      rw [hm] at h2
      have h3 := genJobs_rest p nm nj d2
      split <;> (rename_i hjs; rw [hjs] at h3; exact (h3.trans h2).trans h1)

/-- `generate(num_jobs, num_machines)` with both sizes given consumes a prefix of the stream too; the "fewer jobs than
machines" check raises without drawing -/
theorem generateFixed_rest (p : GenParams) (nj nm : Nat) (draws : List Nat) :
    IsDrop (restGen (generateFixed p nj nm draws)) draws := by
  unfold generateFixed
  split
  · exact IsDrop.refl draws
  · have h := genJobs_rest p nm nj draws
    split <;> (rename_i hjs; rw [hjs] at h; exact h)

theorem next_error_iff (p : GenParams) (g : GenState) (e : GenErr) (g' : GenState) :
    g.next p = .error (e, g') ↔ ∃ f, generate p g.draws = .error f ∧ e = f.err ∧ g' = { g with draws := f.draws } := by
  unfold GenState.next
  cases hg : generate p g.draws with
  | error f =>
    simp only [Except.error.injEq, Prod.mk.injEq]
    constructor
    · rintro ⟨rfl, rfl⟩; exact ⟨f, rfl, rfl, rfl⟩
    · rintro ⟨f', rfl, rfl, rfl⟩; exact ⟨rfl, rfl⟩
  | ok r =>
    obtain ⟨I, n, d⟩ := r
    simp only [reduceCtorEq, false_and, exists_false]

/-- **C19 (refusal).** A refusing `generate()` keeps the name counter and leaves exactly the
draws not yet used. -/
theorem C19_refusal_state (p : GenParams) (g : GenState) (e : GenErr) (g' : GenState) (h : g.next p = .error (e, g')) :
    g'.counter = g.counter ∧ ∃ k, g'.draws = g.draws.drop k := by
  obtain ⟨f, hf, _, rfl⟩ := (next_error_iff p g e g').1 h
  have := generate_rest p g.draws
  rw [hf] at this
  exact ⟨rfl, this⟩

/-- the iteration state is not touched by a refusing call either -/
theorem C19_refusal_iter (p : GenParams) (g : GenState) (e : GenErr) (g' : GenState) (h : g.next p = .error (e, g')) :
    g'.iter = g.iter := by
  obtain ⟨f, _, _, rfl⟩ := (next_error_iff p g e g').1 h
  rfl

/-- **C19 (refusal is deterministic).** Refusal is a property of the parameters and the draws only: the same generator
state refuses the same way again (no hidden state). -/
theorem C19_refusal_deterministic (p : GenParams) (g h : GenState) (hd : g.draws = h.draws) (e : GenErr) (g' : GenState)
    (hg : g.next p = .error (e, g')) : ∃ h', h.next p = .error (e, h') ∧ h'.draws = g'.draws := by
  obtain ⟨f, hf, rfl, rfl⟩ := (next_error_iff p g _ g').1 hg
  rw [hd] at hf
  exact ⟨{ h with draws := f.draws }, (next_error_iff p h _ _).2 ⟨f, hf, rfl, rfl⟩, rfl⟩

/-- a pass over the generator that ends with a refusal: the names given out before stay given out (the counter only
grows) and the stream is further on -/
theorem iterate_refusal_state (p : GenParams) : ∀ (n : Nat) (g : GenState) (e : GenErr) (g' : GenState),
    iterate p n g = .error (e, g') → g.counter ≤ g'.counter ∧ g'.counter < g.counter + n ∧ ∃ k, g'.draws = g.draws.drop k
  | 0, g, e, g', h => by simp [iterate] at h
  | n + 1, g, e, g', h => by
    simp only [iterate] at h
    cases hn : g.next p with
    | error r =>
      rw [hn] at h
      cases h
      obtain ⟨hc, hk⟩ := C19_refusal_state p g e g' hn
      exact ⟨by omega, by omega, hk⟩
    | ok r =>
      obtain ⟨I, name, g1⟩ := r
      rw [hn] at h
      simp only at h
      have hg1 : g1.counter = g.counter + 1 ∧ IsDrop g1.draws g.draws := by
        obtain ⟨nm, d, hg, _, rfl⟩ := GenState.next_ok hn
        have hr := generate_rest p g.draws
        rw [hg] at hr
        exact ⟨rfl, hr⟩
      cases hr : iterate p n g1 with
      | ok r2 => obtain ⟨l, g2⟩ := r2; rw [hr] at h; cases h
      | error r2 =>
        rw [hr] at h
        cases h
        obtain ⟨h1, h2, h3⟩ := iterate_refusal_state p n g1 e g' hr
        exact ⟨by omega, by omega, IsDrop.trans h3 hg1.2⟩

/-- a refusing generator makes `reset()` raise -/
theorem C18_multi_refusal_raises (m : MultiEnv) (e : GenErr) (g' : GenState) (hg : m.gs.next m.p = .error (e, g')) :
    (m.reset).2 = none := by
  unfold MultiEnv.reset
  rw [hg]

/-- **C18 (refused reset).** A multi-environment whose generator refuses on `reset()` raises, keeps its configuration,
spaces and current single environment, and only its generator moves on. -/
theorem C18_multi_refused_reset (m : MultiEnv) (_h : (m.reset).2 = none) (e : GenErr) (g' : GenState)
    (hg : m.gs.next m.p = .error (e, g')) :
    (m.reset).1 = { m with gs := g' } := by
  unfold MultiEnv.reset
  rw [hg]

/-- the generator of a multi-environment after a refused `reset()`: same counter, the draws not yet used -/
theorem C18_multi_refused_reset_gen (m : MultiEnv) (e : GenErr) (g' : GenState) (hg : m.gs.next m.p = .error (e, g')) :
    (m.reset).1.gs.counter = m.gs.counter ∧ ∃ k, (m.reset).1.gs.draws = m.gs.draws.drop k := by
  rw [C18_multi_refused_reset m (C18_multi_refusal_raises m e g' hg) e g' hg]
  exact C19_refusal_state m.p m.gs e g' hg

/-! non-vacuity: one job is drawn, then `randint(2, min 1 3)` refuses; the first draw stays consumed -/
example : GenState.next { jobsRange := (1, 3), machinesRange := (2, 3), durRange := (1, 9), allowLess := false }
    { draws := [0, 5, 7], counter := 4 } = .error (.emptyRange, { draws := [5, 7], counter := 4 }) := by rfl

/-! a refusal in the middle of the operations: `choice([])` after the job's machines ran out (more operations per
job than machines cannot happen in `generate`, so the helper is called directly) -/
example : genJob { jobsRange := (1, 1), machinesRange := (1, 1), durRange := (1, 9) } 2 [0] [3, 4, 5, 6, 7] =
    .error ⟨.emptyChoice, [6, 7]⟩ := by rfl

/-! the second pass of a generator starts where the refused one stopped -/
example : iterate { jobsRange := (1, 3), machinesRange := (2, 3), durRange := (1, 9), allowLess := false } 2
    { draws := [1, 0, 4, 0, 2, 1, 6, 0, 3, 1, 0, 9, 9] } =
    .error (.emptyRange, { draws := [9, 9], counter := 1 }) := by rfl

example : ((({ (default : MultiEnv) with
      p := { jobsRange := (1, 3), machinesRange := (2, 3), durRange := (1, 9), allowLess := false },
      gs := { draws := [0, 5, 7], counter := 4 } }).reset).1.gs, 0) =
    (({ draws := [5, 7], counter := 4 } : GenState), 0) := by decide +kernel

end JS
