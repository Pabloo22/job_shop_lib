import JobShopProofs.EnvInv3
/-!
# The environment's constructor establishes the invariant; steps and resets keep it
-/
namespace JS

/-- feature-observer configurations without a repeated feature type (that the kinds are single-column observer kinds is
checked by `constructFeats`) -/
def FeatsOK (feats : List (FKind × Option (List FT))) : Prop :=
  ∀ kf ∈ feats, ∀ l, kf.2 = some l → l.Nodup

theorem featsOK_of_all {feats : List (FKind × Option (List FT))}
    (h : (feats.all fun kf => kf.2.all fun l => decide l.Nodup) = true) : FeatsOK feats := by
  intro kf hkf l hl
  have := List.all_eq_true.1 h kf hkf
  rw [hl] at this
  exact of_decide_eq_true this

theorem isFeature_single {k : FKind} (h : (!k.isFeature || k == .composite) = false) : k.single = true := by
  cases k <;> simp [FKind.isFeature, FKind.single] at h ⊢

theorem constructFeats_induct {P : FWorld → List (FKind × Option (List FT)) → FWorld → List Nat → Prop}
    (nil : ∀ w, P w [] w [])
    (cons : ∀ w k fts rest w1 id w' ids, k.single = true → w.construct k fts = (w1, some id) →
      constructFeats w1 rest = some (w', ids) → P w1 rest w' ids → P w ((k, fts) :: rest) w' (id :: ids)) :
    ∀ (feats : List (FKind × Option (List FT))) (w w' : FWorld) (ids : List Nat),
      constructFeats w feats = some (w', ids) → P w feats w' ids
  | [], w, w', ids, h => by
    simp only [constructFeats] at h; cases h; exact nil w
  | (k, fts) :: rest, w, w', ids, h => by
    simp only [constructFeats] at h
    split at h
    · cases h
    next hk =>
    split at h
    · cases h
    next w1 id hc =>
    split at h
    · cases h
    next w2 ids2 hr =>
    cases h
    exact cons w k fts rest w1 id w' ids2 (isFeature_single (by simpa using hk)) hc hr
      (constructFeats_induct nil cons rest w1 w' ids2 hr)

theorem constructFeats_ok (feats : List (FKind × Option (List FT))) (w : FWorld) (hw : HeapOK w) (hf : FeatsOK feats)
    (w' : FWorld) (ids : List Nat) (h : constructFeats w feats = some (w', ids)) :
    HeapOK w' ∧ WExt w w' ∧ ∀ i ∈ ids, ∃ q, w'.heap[i]? = some q ∧ q.kind.single = true := by
  revert hw hf
  refine constructFeats_induct (P := fun w feats w' ids => HeapOK w → FeatsOK feats →
    HeapOK w' ∧ WExt w w' ∧ ∀ i ∈ ids, ∃ q, w'.heap[i]? = some q ∧ q.kind.single = true) ?_ ?_ feats w w' ids h
  · exact fun w hw _ => ⟨hw, WExt.refl w, fun i hi => nomatch hi⟩
  · intro w k fts rest w1 id w' ids hs hc _ ih hw hf
    obtain ⟨h1, e1, g1⟩ := construct_feature hw k hs fts (hf (k, fts) (List.mem_cons_self ..))
    rw [hc] at h1 e1 g1
    obtain ⟨h2, e2, g2⟩ := ih h1 (fun kf hkf => hf kf (List.mem_cons_of_mem _ hkf))
    obtain ⟨q, hq, hkq⟩ := (g1 id rfl).ext e2
    exact ⟨h2, e1.trans e2, List.forall_mem_cons.2 ⟨⟨q, hq, hkq ▸ hs⟩, g2⟩⟩

theorem set_append_last {α} (l : List α) (a b : α) : (l ++ [a]).set l.length b = l ++ [b] := by
  induction l with
  | nil => rfl
  | cons x t ih => simp only [List.cons_append, List.length_cons, List.set_cons_succ, ih]

theorem constructComposite_ok {w : FWorld} (hw : HeapOK w) (ids : List Nat)
    (hids : ∀ i ∈ ids, ∃ q, w.heap[i]? = some q ∧ q.kind.single = true) :
    ∀ w' id, w.constructComposite (some ids) = (w', some id) →
      HeapOK w' ∧ WExt w w' ∧
      ∃ o, w'.heap[id]? = some o ∧ o.kind = .composite ∧ o.parts = ids ∧ CompOK w.cfg.I w'.heap o := by
  intro w' id h
  simp only [FWorld.constructComposite, FWorld.push, FWorld.setObs, Prod.mk.injEq, Option.some.injEq] at h
  obtain ⟨rfl, rfl⟩ := h
  simp only [set_append_last]
  generalize ho : ({ kind := FKind.composite, parts := ids, cols := _, fts := _, names := _ } : FObs) = o'
  have hk' : o'.kind = .composite := by rw [← ho]
  have hp' : o'.parts = ids := by rw [← ho]
  have hcomp : CompOK w.cfg.I (w.heap ++ [o']) o' := by
    refine ⟨w.heap ++ [{ kind := .composite, parts := ids }], by rw [← ho], fun i hi => ?_⟩
    obtain ⟨q, hq, hs⟩ := hids i (hp' ▸ hi)
    have hq' : ∀ x, (w.heap ++ [x])[i]? = some q := fun x => (push_heap_old w x (heap_lt hq)).trans hq
    exact ⟨q, q, hq' _, hq' _, hs, shaped_of_heapOK hw hq hs, rfl⟩
  obtain ⟨h1, e1, g1⟩ := push_ok hw o'
    ⟨fun h => (by rw [hk'] at h; cases h), fun h => (by rw [hk'] at h; cases h), fun _ => hcomp⟩
  exact ⟨h1, e1, o', g1, hk', hp', hcomp⟩

theorem getIsCompleted_ok {w : FWorld} (hw : HeapOK w) (need : List FT) (hnd : need.Nodup) :
    HeapOK (w.getIsCompleted need).1 ∧ WExt w (w.getIsCompleted need).1 := by
  unfold FWorld.getIsCompleted
  cases w.findObs .isCompleted need with
  | some id => exact ⟨hw, WExt.refl w⟩
  | none =>
    simp only
    have hb : ((({ kind := .isCompleted, fts := need } : FObs).zeroed w.cfg.I)).Shaped w.cfg.I := zeroed_shaped _ _ hnd
    obtain ⟨a, b, c⟩ := push_single_ok hw _ rfl hb
    obtain ⟨h2, e2⟩ := isCompletedInit_ok a c
    exact ⟨h2, b.trans e2⟩

theorem constructResidual_ok {w : FWorld} (hw : HeapOK w) (g : Graph) (hg : GInv g) (rm rj : Bool) :
    ∀ w' id, w.constructResidual g rm rj = (w', some id) →
      HeapOK w' ∧ WExt w w' ∧ ∃ o, w'.heap[id]? = some o ∧ o.kind = .residual ∧ o.graph0 = g ∧ o.graph = g := by
  intro w' id h
  unfold FWorld.constructResidual at h
  split at h
  · cases h
  · simp only at h
    have hnd : ((if rm then [FT.machines] else []) ++ (if rj then [FT.jobs] else [])).Nodup := by
      cases rm <;> cases rj <;> decide
    generalize ((if rm then [FT.machines] else []) ++ (if rj then [FT.jobs] else [])) = need at h hnd
    -- whichever world the `IsCompletedObserver` lookup leaves, the updater is pushed onto it
    generalize hr : (if need.isEmpty = true then _ else _ : FWorld × List Nat) = r at h
    have h1 : HeapOK r.1 ∧ WExt w r.1 := by
      rw [← hr]
      split
      · exact ⟨hw, WExt.refl w⟩
      · exact getIsCompleted_ok hw need hnd
    cases h
    obtain ⟨a, b, c⟩ := push_ok h1.1
      ({ kind := .residual, parts := r.2, graph := g, graph0 := g, rmMach := rm, rmJob := rj } : FObs)
      ⟨fun h => (by cases h), fun _ => ⟨hg, SizeLe.refl g, hg⟩, fun h => (by cases h)⟩
    exact ⟨a, h1.2.trans b, _, c, rfl, rfl, rfl⟩

structure EnvOK (e : Env) : Prop where
  heap : HeapOK e.w
  upd : ∃ o, e.w.heap[e.upd]? = some o ∧ o.kind = .residual ∧
    o.graph0.nodes.length = e.space.nNodes ∧ o.graph0.edges.length = e.space.nEdges
  comp : ∃ o, e.w.heap[e.comp]? = some o ∧ o.kind = .composite ∧
    e.space.feats = shapeF e.w.cfg.I ((o.parts.filterMap fun i => e.w.heap[i]?).map (·.fts))
  act : e.space.nJobs = e.w.cfg.I.length ∧ e.space.nMachines = numMachines e.w.cfg.I

theorem parts_fts_ext {w w' : FWorld} (e : WExt w w') (parts : List Nat)
    (hp : ∀ i ∈ parts, ∃ q, w.heap[i]? = some q ∧ q.kind.single = true) :
    (parts.filterMap fun i => w'.heap[i]?).map (·.fts) = (parts.filterMap fun i => w.heap[i]?).map (·.fts) := by
  refine filterMap_fts_congr w'.heap w.heap parts fun i hi => ?_
  obtain ⟨q, hq, hs⟩ := hp i hi
  obtain ⟨q', hq', _, _, _, hf⟩ := e.step i q hq
  exact ⟨q', q, hq', hq, hf hs⟩

theorem EnvOK.ext {e : Env} (h : EnvOK e) {w' : FWorld} (hw' : HeapOK w') (ex : WExt e.w w') :
    EnvOK { e with w := w' } := by
  obtain ⟨o, ho, hk, hn, he⟩ := h.upd
  obtain ⟨o', ho', hk', _, hg0, _⟩ := ex.step _ o ho
  obtain ⟨c, hc, hkc, hf⟩ := h.comp
  obtain ⟨c', hc', hkc', hpc', _⟩ := ex.step _ c hc
  refine ⟨hw', ⟨o', ho', hk'.trans hk, by rw [hg0]; exact hn, by rw [hg0]; exact he⟩, ⟨c', hc', hkc'.trans hkc, ?_⟩, ?_⟩
  · simp only
    rw [ex.cfg, hpc', hf]
    obtain ⟨_, _, hall⟩ := (h.heap _ c hc).comp hkc
    rw [parts_fts_ext ex c.parts (fun i hi => by
      obtain ⟨_, q, _, hq, hs, _⟩ := hall i hi; exact ⟨q, hq, hs⟩)]
  · simp only
    rw [ex.cfg]; exact h.act

/-- the outcomes of `step`: rejected (the job has no next operation, or the dispatcher refuses the request) with the
environment untouched; or the dispatcher accepts and the environment moves to the new world, raising only if the
observation does not fit the declared space -/
theorem Env.step_cases (e : Env) (job : Nat) (machine : Int) :
    (e.step job machine = (e, .raised) ∧
      (job ≥ e.w.cfg.I.length ∨ e.w.s.jobIdx.getD job 0 ≥ (e.w.cfg.I.getD job []).length ∨
        (e.w.dispatch job (e.w.s.jobIdx.getD job 0) (if machine == -1 then none else some machine)).2 = false)) ∨
    ∃ w', e.w.dispatch job (e.w.s.jobIdx.getD job 0) (if machine == -1 then none else some machine) = (w', true) ∧
      job < e.w.cfg.I.length ∧ e.w.s.jobIdx.getD job 0 < (e.w.cfg.I.getD job []).length ∧
      ((({ e with w := w' } : Env).observation = none ∧ e.step job machine = ({ e with w := w' }, .raised)) ∨
       ∃ obs, ({ e with w := w' } : Env).observation = some obs ∧
         e.step job machine = ({ e with w := w' }, .ok obs ({ e with w := w' } : Env).lastReward
           (isComplete w'.cfg.I w'.s) false (availablePure w'.cfg w'.s))) := by
  unfold Env.step
  by_cases h1 : job ≥ e.w.cfg.I.length
  · exact Or.inl ⟨if_pos h1, Or.inl h1⟩
  · rw [if_neg h1]
    by_cases h2 : e.w.s.jobIdx.getD job 0 ≥ (e.w.cfg.I.getD job []).length
    · exact Or.inl ⟨if_pos h2, Or.inr (Or.inl h2)⟩
    · simp only [if_neg h2]
      rcases hd : e.w.dispatch job (e.w.s.jobIdx.getD job 0) (if machine == -1 then none else some machine) with ⟨w', b⟩
      cases b with
      | false => exact Or.inl ⟨rfl, Or.inr (Or.inr rfl)⟩
      | true =>
        refine Or.inr ⟨w', rfl, by omega, by omega, ?_⟩
        simp only
        cases ho : ({ e with w := w' } : Env).observation with
        | none => exact Or.inl ⟨rfl, rfl⟩
        | some o => exact Or.inr ⟨o, rfl, rfl⟩

theorem Env.step_fst (e : Env) (job : Nat) (machine : Int) :
    (e.step job machine).1 = e ∨
    ∃ w', e.w.dispatch job (e.w.s.jobIdx.getD job 0) (if machine == -1 then none else some machine) = (w', true) ∧
      (e.step job machine).1 = { e with w := w' } := by
  rcases Env.step_cases e job machine with ⟨h, _⟩ | ⟨w', hd, _, _, ⟨_, h⟩ | ⟨_, _, h⟩⟩
  · exact Or.inl (congrArg Prod.fst h)
  · exact Or.inr ⟨w', hd, congrArg Prod.fst h⟩
  · exact Or.inr ⟨w', hd, congrArg Prod.fst h⟩

theorem Env.step_envOK {e : Env} (h : EnvOK e) (job : Nat) (machine : Int) : EnvOK (e.step job machine).1 := by
  rcases Env.step_fst e job machine with he | ⟨w', hd, he⟩
  · rw [he]; exact h
  · rw [he]
    have hok := dispatch_ok' h.heap job (e.w.s.jobIdx.getD job 0) (if machine == -1 then none else some machine)
    rw [hd] at hok
    exact h.ext hok.1 hok.2

theorem Env.reset_envOK {e : Env} (h : EnvOK e) : EnvOK e.reset.1 := by
  unfold Env.reset
  obtain ⟨hr, er⟩ := reset_ok' h.heap
  exact h.ext hr er

theorem heapOK_init (c : Cfg) : HeapOK (FWorld.init c) := by
  intro k o h
  simp [FWorld.init] at h

/-- what a successful `Env.make` did: the feature observers, the composite, the residual updater, the reward observer and
the history observer were constructed in this order, and the environment records their ids and the spaces read off the
last world -/
theorem Env.make_inv {c : Cfg} {ec : EnvCfg} {e : Env} (h : Env.make c ec = some e) :
    ∃ w1 ids w2 w3 w4 hid,
      constructFeats (FWorld.init c) ec.feats = some (w1, ids) ∧
      w1.constructComposite (some ids) = (w2, some e.comp) ∧
      w2.constructResidual (build ec.builder c.I) ec.rmMach ec.rmJob = (w3, some e.upd) ∧
      (ec.reward = .makespanReward ∨ ec.reward = .idleReward) ∧
      w3.construct ec.reward none = (w4, some e.rew) ∧
      w4.construct .history none = (e.w, some hid) ∧
      e.ec = ec ∧
      e.space = { nJobs := c.I.length, nMachines := numMachines c.I,
                  nNodes := (e.w.heap.getD e.upd default).graph.nodes.length,
                  nEdges := (e.w.heap.getD e.upd default).graph.edges.length,
                  feats := (e.w.heap.getD e.comp default).cols.map fun tc => (tc.1, matShape tc.2) } := by
  unfold Env.make at h
  split at h
  · cases h
  next w1 ids h1 =>
  split at h
  · cases h
  next w2 comp h2 =>
  split at h
  · cases h
  next w3 upd h3 =>
  split at h
  · cases h
  next hrw =>
  split at h
  · cases h
  next w4 rew h4 =>
  split at h
  · cases h
  next w5 hid h5 =>
  cases h
  refine ⟨w1, ids, w2, w3, w4, hid, h1, h2, h3, ?_, h4, h5, rfl, rfl⟩
  cases hr : ec.reward <;> simp [hr] at hrw ⊢

/-- the heap of a made environment `e`: it satisfies the invariant and extends the world `w1` that holds the feature
observers `ids`; the composite lists exactly these, the updater holds the built graph, and the reward observer has the
configured kind -/
structure Env.Made (c : Cfg) (ec : EnvCfg) (e : Env) (w1 : FWorld) (ids : List Nat) : Prop where
  feats : constructFeats (FWorld.init c) ec.feats = some (w1, ids)
  single : ∀ i ∈ ids, ∃ q, w1.heap[i]? = some q ∧ q.kind.single = true
  heap : HeapOK e.w
  ext : WExt w1 e.w
  cfg : e.w.cfg = c
  comp : ∃ oc, e.w.heap[e.comp]? = some oc ∧ oc.kind = .composite ∧ oc.parts = ids
  upd : ∃ ou, e.w.heap[e.upd]? = some ou ∧ ou.kind = .residual ∧ ou.graph0 = build ec.builder c.I ∧
    ou.graph = build ec.builder c.I
  rew : KindAt e.w e.rew ec.reward

theorem Env.make_heap {c : Cfg} {ec : EnvCfg} {e : Env} (hf : FeatsOK ec.feats) (h : Env.make c ec = some e) :
    ∃ w1 ids, Env.Made c ec e w1 ids := by
  obtain ⟨w1, ids, w2, w3, w4, hid, h1, h2, h3, hrk, h4, h5, _, _⟩ := Env.make_inv h
  obtain ⟨hw1, e1, g1⟩ := constructFeats_ok ec.feats _ (heapOK_init c) hf w1 ids h1
  obtain ⟨hw2, e2, oc, hoc, hkc, hpc, _⟩ := constructComposite_ok hw1 ids g1 w2 _ h2
  obtain ⟨hw3, e3, ou, hou, hku, hg0, hg⟩ := constructResidual_ok hw2 _ (C17_built_inv ec.builder c.I) _ _ w3 _ h3
  obtain ⟨hw4, e4, k4⟩ := construct_plain hw3 ec.reward (Or.inr (Or.inr hrk))
  have keep4 := (construct_edits w3 ec.reward none).keep hou
  rw [h4] at hw4 e4 k4 keep4
  obtain ⟨hw5, e5, _⟩ := construct_plain hw4 .history (Or.inr (Or.inl rfl))
  have keep5 := (construct_edits w4 .history none).keep keep4
  rw [h5] at hw5 e5 keep5
  obtain ⟨oc5, hoc5, hkc5, hpc5, _⟩ := (e3.trans (e4.trans e5)).step _ oc hoc
  exact ⟨w1, ids, h1, g1, hw5, e2.trans (e3.trans (e4.trans e5)),
    by rw [e5.cfg, e4.cfg, e3.cfg, e2.cfg, e1.cfg]; rfl, ⟨oc5, hoc5, hkc5.trans hkc, hpc5.trans hpc⟩,
    ⟨ou, keep5, hku, hg0, hg⟩, (k4 _ rfl).ext e5⟩

theorem Env.make_envOK {c : Cfg} {ec : EnvCfg} {e : Env} (hf : FeatsOK ec.feats) (h : Env.make c ec = some e) :
    EnvOK e ∧ e.w.cfg = c ∧ e.ec = ec := by
  obtain ⟨_, _, _, _, _, _, _, _, _, _, _, _, hec, hsp⟩ := Env.make_inv h
  obtain ⟨_, _, hm⟩ := Env.make_heap hf h
  obtain ⟨oc, hoc, hkc, _⟩ := hm.comp
  obtain ⟨ou, hou, hku, hg0, hg⟩ := hm.upd
  refine ⟨⟨hm.heap, ⟨ou, hou, hku, ?_, ?_⟩, ⟨oc, hoc, hkc, ?_⟩, ?_⟩, hm.cfg, hec⟩
  · rw [hsp, getD_of_get hou, hg, hg0]
  · rw [hsp, getD_of_get hou, hg, hg0]
  · rw [hsp, getD_of_get hoc]; exact ((hm.heap _ oc hoc).comp hkc).shape.1
  · rw [hsp, hm.cfg]; exact ⟨rfl, rfl⟩

end JS
