import JobShopProofs.FeatureWorldDefs
/-!
# A dispatch request preserves the value invariant of the feature world

`finv_dispatch`: if `FInv w` then `FInv (w.dispatch j p m).1`, whether the request is accepted or rejected.

Route: an accepted request notifies every subscriber once (`fold_callUpdate_at`); a notification rewrites exactly
the notified observer, by the pure transformer `updObs`; per kind, `updObs` maps `ObsVal` of the old state to
`ObsVal` of the new state (`updObs_spec`).
-/
namespace JS

/-- closes a clause of `ObsVal` whose kind hypothesis contradicts the known kind -/
macro "kind_absurd" hk:ident : tactic =>
  `(tactic| (intro hk'; rw [$hk:ident] at hk'; exact absurd hk' (by decide)))

/-- what `ObsVal` asks of an observer of kind `k` -/
def KindVal (c : Cfg) (s : State) (o : FObs) : FKind → Prop
  | .isReady => ∀ ft ∈ o.fts, o.col ft = indicator (numEntities c.I ft) (readyIds c s ft)
  | .earliestStart => EstOK c.I s o.est ∧
      (FT.operations ∈ o.fts → ∀ r ∈ unscheduledPure c.I s,
        (o.col .operations).getD (opId c.I r) 0 = estSpec c.I s r - currentTimePure c s) ∧
      (FT.machines ∈ o.fts → ∀ m, m < numMachines c.I → (o.col .machines).getD m 0 =
        ((((unscheduledPure c.I s).filter (onMachine c.I m)).map (estSpec c.I s)).min?).getD 0 - currentTimePure c s) ∧
      (FT.jobs ∈ o.fts → ∀ j, j < c.I.length → s.jobIdx.getD j 0 < (c.I.getD j []).length →
        (o.col .jobs).getD j 0 = estSpec c.I s (j, s.jobIdx.getD j 0) - currentTimePure c s)
  | .duration => (FT.operations ∈ o.fts → DurOpsOK c.I s (o.col .operations)) ∧
      (FT.jobs ∈ o.fts → o.col .jobs = durJobsSpec c.I s) ∧
      (NonFlexG c.I → FT.machines ∈ o.fts → o.col .machines = durMachSpec c.I s)
  | .isScheduled => (FT.operations ∈ o.fts → o.col .operations = schedOpsSpec c.I s) ∧
      (FT.machines ∈ o.fts → o.col .machines = ongoingMachSpec c s) ∧
      (FT.jobs ∈ o.fts → o.col .jobs = ongoingJobsSpec c s)
  | .positionInJob => FT.operations ∈ o.fts → PosSpecOK c.I s (o.col .operations)
  | .remainingOps => (FT.jobs ∈ o.fts → o.col .jobs = remJobsSpec c.I s) ∧
      ((NonFlexG c.I ∨ s = init c.I) → FT.machines ∈ o.fts → o.col .machines = remMachSpec c.I s)
  | .isCompleted => (FT.operations ∈ o.fts → o.col .operations = complOpsSpec c s) ∧
      (FT.jobs ∈ o.fts → o.remJob = remJobsSpec c.I s ∧ o.col .jobs = complJobsSpec c.I s) ∧
      (FT.machines ∈ o.fts → o.remMach = remMachSpec c.I s ∧ o.col .machines = complMachSpec c.I s)
  | .unscheduled => o.deques = dequesSpec c.I s
  | _ => True

theorem obsVal_of_kind {c : Cfg} {s : State} {o : FObs} {k : FKind} (hk : o.kind = k) (h : KindVal c s o k) :
    ObsVal c s o := by
  have at_ : ∀ {k' : FKind}, o.kind = k' → KindVal c s o k' := fun e => (hk.symm.trans e) ▸ h
  exact {
    ready := fun e => at_ e
    estM := fun e => (at_ e).1
    estOps := fun e => (at_ e).2.1
    estMach := fun e => (at_ e).2.2.1
    estJobs := fun e => (at_ e).2.2.2
    durOps := fun e => (at_ e).1
    durJobs := fun e => (at_ e).2.1
    durMach := fun e => (at_ e).2.2
    schOps := fun e => (at_ e).1
    schMach := fun e => (at_ e).2.1
    schJobs := fun e => (at_ e).2.2
    pos := fun e => at_ e
    remJobs := fun e => (at_ e).1
    remMach := fun e => (at_ e).2
    cmpOps := fun e => (at_ e).1
    cmpJobs := fun e => (at_ e).2.1
    cmpMach := fun e => (at_ e).2.2
    unsched := fun e => at_ e }

theorem obsVal_plain {c : Cfg} {s : State} {o : FObs} (hk : o.kind.tunable = false) : ObsVal c s o := by
  cases h : o.kind <;> first | exact obsVal_of_kind h trivial | (rw [h] at hk; cases hk)

/-- `IsReadyObserver`: `initialize_features` = `update` = `reset` -/
theorem obsVal_isReadyFeatures (c : Cfg) (s : State) {o : FObs} (hk : o.kind = .isReady) (hsh : o.Shaped c.I) :
    ObsVal c s (isReadyFeatures c s o) :=
  have k := keeps_isReadyFeatures c s hsh
  obsVal_of_kind (k.kind.trans hk) fun ft hft => C11_isReady c s o hsh.wf.nodup ft (k.fts ▸ hft)

theorem obsVal_estFeatures (c : Cfg) (s : State) {o : FObs} (hk : o.kind = .earliestStart) (hsh : o.Shaped c.I)
    (hok : EstOK c.I s o.est) : ObsVal c s (estFeatures c s o) := by
  have k := keeps_estFeatures c s hsh
  have hcol : ∀ ft, ft ∈ (estFeatures c s o).fts → (estFeatures c s o).col ft = estCol c s o ft := fun ft hft =>
    (assignCols_col o (estCol c s) hsh.wf (estCol_indep c s) ft (k.fts ▸ hft)).1
  refine obsVal_of_kind (k.kind.trans hk) ⟨?_, fun hft r hr => ?_, fun hft m hm => ?_, fun hft j hj hlt => ?_⟩
  · rw [show (estFeatures c s o).est = o.est from assignCols_est o _]; exact hok
  · rw [hcol _ hft]; exact estCol_ops c s o hok r hr
  · rw [hcol _ hft]; exact estCol_machines c s o hok m hm
  · rw [hcol _ hft]; exact estCol_jobs c s o hok j hj hlt

theorem nonflex_machines {I : Instance} {s s' : State} {j p m : Nat} {op : Op} (hn : NonFlexG I)
    (hd : DispSpec I s s' j p m op) : op.machines = [m] := by
  obtain ⟨m', hm'⟩ := hn j p op hd.hop
  have := hd.hm
  rw [hm'] at this
  simp only [List.mem_singleton] at this
  rw [hm', this]

theorem upd_duration (c : Cfg) {s s' : State} {j p m : Nat} {op : Op} (hwf : WF c.I s)
    (hd : DispSpec c.I s s' j p m op) {o : FObs} (hk : o.kind = .duration) (hsh : o.Shaped c.I)
    (hval : ObsVal c s o) : ObsVal c s' (durationUpdate c s' (newEntry s j p m op) o) :=
  have k := keeps_durationUpdate c s' (newEntry s j p m op) hsh
  obsVal_of_kind (k.kind.trans hk)
    ⟨fun hft => durationUpdate_ops c hwf hd o hsh.wf (k.fts ▸ hft) (hval.durOps hk (k.fts ▸ hft)),
     fun hft => (durationUpdate_jobs c hwf hd o hsh.wf (k.fts ▸ hft) (hval.durJobs hk (k.fts ▸ hft))).1,
     fun hn hft => durationUpdate_machines c hwf hd (nonflex_machines hn hd) o hsh.wf (k.fts ▸ hft)
       (hval.durMach hk hn (k.fts ▸ hft))⟩

theorem upd_isScheduled (c : Cfg) {s s' : State} {j p m : Nat} {op : Op} (hwf : WF c.I s)
    (hd : DispSpec c.I s s' j p m op) {o : FObs} (hk : o.kind = .isScheduled) (hsh : o.Shaped c.I)
    (hval : ObsVal c s o) : ObsVal c s' (isScheduledUpdate c s' (newEntry s j p m op) o) := by
  have k := keeps_isScheduledUpdate c s' (newEntry s j p m op) hsh
  refine obsVal_of_kind (k.kind.trans hk) ⟨fun hft => ?_,
    fun hft => isScheduledUpdate_machines c s' _ o hsh.wf (k.fts ▸ hft),
    fun hft => isScheduledUpdate_jobs c s' _ o hsh.wf (k.fts ▸ hft)⟩
  rw [k.fts] at hft
  unfold isScheduledUpdate
  rw [(assignCols_col o (isScheduledCol c s' (newEntry s j p m op)) hsh.wf (isScheduledCol_indep c s' _) .operations hft).1]
  simp only [isScheduledCol, newEntry]
  rw [hval.schOps hk hft, schedOpsSpec_dispatch hwf hd]

theorem upd_position (c : Cfg) {s s' : State} {j p m : Nat} {op : Op} (hwf : WF c.I s)
    (hd : DispSpec c.I s s' j p m op) {o : FObs} (hk : o.kind = .positionInJob) (hsh : o.Shaped c.I)
    (hval : ObsVal c s o) : ObsVal c s' (positionUpdate c (newEntry s j p m op) o) :=
  have k := keeps_positionUpdate c (newEntry s j p m op) hsh
  obsVal_of_kind (k.kind.trans hk) fun hft =>
    (positionUpdate_spec c hwf hd o hsh.wf (k.fts ▸ hft) (hval.pos hk (k.fts ▸ hft))).1

theorem dispatch_ne_init {I : Instance} {s s' : State} {j p m : Nat} {op : Op} (hwf : WF I s)
    (hd : DispSpec I s s' j p m op) : s' ≠ init I := by
  intro h
  have h1 := (dispSpec_vectors hwf hd).2.1 j
  rw [h, init_jobIdx_getD] at h1
  simp at h1

theorem upd_remaining (c : Cfg) {s s' : State} {j p m : Nat} {op : Op} (hwf : WF c.I s)
    (hd : DispSpec c.I s s' j p m op) {o : FObs} (hk : o.kind = .remainingOps) (hsh : o.Shaped c.I)
    (hval : ObsVal c s o) : ObsVal c s' (remainingUpdate (newEntry s j p m op) o) := by
  have k := keeps_remainingUpdate c.I (newEntry s j p m op) hsh
  refine obsVal_of_kind (k.kind.trans hk)
    ⟨fun hft => (remainingUpdate_jobs c.I hwf hd o hsh.wf (k.fts ▸ hft) (hval.remJobs hk (k.fts ▸ hft))).1,
     fun hn hft => ?_⟩
  rcases hn with hn | hn
  · exact remainingUpdate_machines c.I hwf hd (nonflex_machines hn hd) o hsh.wf (k.fts ▸ hft)
      (hval.remMach hk (Or.inl hn) (k.fts ▸ hft))
  · exact absurd hn (dispatch_ne_init hwf hd)

theorem upd_isCompleted (c : Cfg) {s s' : State} {j p m : Nat} {op : Op} (hwf : WF c.I s)
    (hd : DispSpec c.I s s' j p m op)
    (hmono : ∀ r, r ∈ completedPure c s → r ∈ completedPure c s') {o : FObs} (hk : o.kind = .isCompleted)
    (hsh : o.Shaped c.I) (hval : ObsVal c s o) : ObsVal c s' (isCompletedUpdate c s' (newEntry s j p m op) o) :=
  have k := keeps_isCompletedUpdate c s' (newEntry s j p m op) hsh
  obsVal_of_kind (k.kind.trans hk)
    ⟨fun hft => isCompletedUpdate_ops c s s' _ o hsh.wf (k.fts ▸ hft) hmono (hval.cmpOps hk (k.fts ▸ hft)),
     fun hft => isCompletedUpdate_jobs c hwf hd o hsh.wf (k.fts ▸ hft) (hval.cmpJobs hk (k.fts ▸ hft)).1
       (hval.cmpJobs hk (k.fts ▸ hft)).2,
     fun hft => isCompletedUpdate_machines c hwf hd o hsh.wf (k.fts ▸ hft) (hval.cmpMach hk (k.fts ▸ hft)).1
       (hval.cmpMach hk (k.fts ▸ hft)).2⟩

theorem popJobF_dequesSpec {I : Instance} {s s' : State} {j p m : Nat} {op : Op} (hwf : WF I s)
    (hd : DispSpec I s s' j p m op) : popJobF (dequesSpec I s) j = dequesSpec I s' :=
  (map_unschedJob_dispatch hwf hd (fun l => l) List.tail rfl).symm

theorem updObs_spec (c : Cfg) {s s' : State} {j p m : Nat} {op : Op} (hwf : WF c.I s)
    (hd : DispSpec c.I s s' j p m op) (hmono : ∀ r, r ∈ completedPure c s → r ∈ completedPure c s')
    (hp : List FObs) (o : FObs) (hsh : o.kind.single = true → o.Shaped c.I) (hval : ObsVal c s o) :
    (updObs c s' (newEntry s j p m op) hp o).kind = o.kind ∧
    (o.kind.single = true → (updObs c s' (newEntry s j p m op) hp o).Shaped c.I) ∧
    ObsVal c s' (updObs c s' (newEntry s j p m op) hp o) := by
  refine ⟨updObs_kind c s' (newEntry s j p m op) hp o, ?_⟩
  have sh : ∀ {k : FKind}, o.kind = k → k.single = true → o.Shaped c.I := fun hk hs => hsh (hk ▸ hs)
  have plain : ∀ o' : FObs, o'.kind = o.kind → o.kind.tunable = false →
      (o.kind.single = true → o'.Shaped c.I) ∧ ObsVal c s' o' := fun o' hk' ht =>
    ⟨fun h => absurd (single_tunable h) (by rw [ht]; decide), obsVal_plain (hk'.symm ▸ ht)⟩
  unfold updObs
  split
  · rename_i hk
    exact ⟨fun _ => (keeps_isReadyFeatures c s' (sh hk rfl)).shaped, obsVal_isReadyFeatures c s' hk (sh hk rfl)⟩
  · rename_i hk
    have k1 := keeps_withEst (sh hk rfl) (estCompute c.I s' o.est)
    exact ⟨fun _ => (keeps_estFeatures c s' k1.shaped).shaped, obsVal_estFeatures c s' hk k1.shaped
      (estCompute_spec c.I s' o.est ⟨(hval.estM hk).1, (hval.estM hk).2.1⟩)⟩
  · rename_i hk
    exact ⟨fun _ => (keeps_durationUpdate c s' _ (sh hk rfl)).shaped, upd_duration c hwf hd hk (sh hk rfl) hval⟩
  · rename_i hk
    exact ⟨fun _ => (keeps_isScheduledUpdate c s' _ (sh hk rfl)).shaped, upd_isScheduled c hwf hd hk (sh hk rfl) hval⟩
  · rename_i hk
    exact ⟨fun _ => (keeps_positionUpdate c _ (sh hk rfl)).shaped, upd_position c hwf hd hk (sh hk rfl) hval⟩
  · rename_i hk
    exact ⟨fun _ => (keeps_remainingUpdate c.I _ (sh hk rfl)).shaped, upd_remaining c hwf hd hk (sh hk rfl) hval⟩
  · rename_i hk
    exact ⟨fun _ => (keeps_isCompletedUpdate c s' _ (sh hk rfl)).shaped,
      upd_isCompleted c hwf hd hmono hk (sh hk rfl) hval⟩
  · rename_i hk
    exact plain _ rfl (by rw [hk]; rfl)
  · rename_i hk
    refine ⟨fun h => absurd h (by rw [hk]; decide), obsVal_of_kind (k := .unscheduled) hk ?_⟩
    show popJobF o.deques j = dequesSpec c.I s'
    rw [hval.unsched hk, popJobF_dequesSpec hwf hd]
  all_goals
    rename_i hk
    exact plain _ rfl (by rw [hk]; rfl)

theorem finv_of_frame {w W : FWorld} {s' : State} {j p mm : Nat} {op : Op} (h : FInv w)
    (hwf : WF w.cfg.I w.s) (hd : DispSpec w.cfg.I w.s s' j p mm op)
    (hmono : ∀ r, r ∈ completedPure w.cfg w.s → r ∈ completedPure w.cfg s')
    (hreach : ∃ evs : List Ev, s' = run w.cfg evs)
    (f1 : W.subs = w.subs) (f2 : W.s = s') (f3 : W.cfg = w.cfg) (f4 : W.heap.length = w.heap.length)
    (f5 : ∀ k, k ∉ w.subs → W.heap[k]? = w.heap[k]?)
    (f6 : ∀ id ∈ w.subs, ∀ o, w.heap[id]? = some o →
      ∃ hp, W.heap[id]? = some (updObs w.cfg s' (newEntry w.s j p mm op) hp o)) : FInv W := by
  -- every subscribed entry of `W`: the transformer applied to the old entry
  have hsub : ∀ id ∈ w.subs, ∀ o', W.heap[id]? = some o' →
      ∃ o hp, w.heap[id]? = some o ∧ o' = updObs w.cfg s' (newEntry w.s j p mm op) hp o := by
    intro id hid o' ho'
    have hlt := h.subs.valid id hid
    have ho : w.heap[id]? = some w.heap[id] := List.getElem?_eq_getElem hlt
    obtain ⟨hp, hhp⟩ := f6 id hid _ ho
    rw [hhp] at ho'
    exact ⟨_, hp, ho, (Option.some.inj ho').symm⟩
  constructor
  · intro k o' ho' hs
    rw [f3]
    by_cases hmem : k ∈ w.subs
    · obtain ⟨o, hp, ho, rfl⟩ := hsub k hmem o' ho'
      have hsh : o.kind.single = true → o.Shaped w.cfg.I := h.shape k o ho
      obtain ⟨a, b, _⟩ := updObs_spec w.cfg hwf hd hmono hp o hsh (h.val k hmem o ho)
      exact b (by rw [← a]; exact hs)
    · rw [f5 k hmem] at ho'
      exact h.shape k o' ho' hs
  · refine ⟨by rw [f1]; exact h.subs.nodup, ?_⟩
    intro id hid
    rw [f1] at hid
    rw [f4]
    exact h.subs.valid id hid
  · obtain ⟨evs, he⟩ := hreach
    exact ⟨evs, by rw [f2, f3]; exact he⟩
  · intro id hid o' ho'
    rw [f1] at hid
    rw [f2, f3]
    obtain ⟨o, hp, ho, rfl⟩ := hsub id hid o' ho'
    exact (updObs_spec w.cfg hwf hd hmono hp o (h.shape id o ho) (h.val id hid o ho)).2.2

theorem finv_dispatch {w : FWorld} (hv : Valid w.cfg.I) (hF : w.cfg.F = none ∨ PosDurI w.cfg.I) (h : FInv w)
    (j p : Nat) (m : Option Int) : FInv (w.dispatch j p m).1 := by
  obtain ⟨evs, hevs⟩ := h.reach
  have hc : CInv w.cfg.I w.s := by rw [hevs]; exact (inv_run hv evs).cinv
  rcases w.dispatch_cases hv hc j p m with e | ⟨s', mm, op, hdr, _, hsp, e⟩
  · rw [e]; exact h
  · rw [e]
    have hrun : s' = run w.cfg (evs ++ [.disp j p m]) := by
      rw [run_snoc, ← hevs]
      simp only [stepEv, hdr]
    have hmono : ∀ r, r ∈ completedPure w.cfg w.s → r ∈ completedPure w.cfg s' := by
      intro r hr
      rw [hrun]
      rw [hevs] at hr
      exact C06_completed_mono w.cfg hv hF evs j p m r hr
    obtain ⟨f1, f2, f3, f4, f5, f6⟩ :=
      fold_callUpdate_at (newEntry w.s j p mm op) w.subs { w with s := s' } h.subs.nodup
    exact finv_of_frame h hc.wf hsp hmono ⟨_, hrun⟩ f1 f2 f3 f4 f5 f6

end JS
