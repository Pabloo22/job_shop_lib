import JobShopModel.Features
/-!
# What the operations of the feature world do to the heap

Besides the record of the observer it is called on, a constructor or a `reset()` callback of the feature world writes to the
heap in two ways only: it pushes (and subscribes) an observer, or it gives a subscribed single-column observer (or the
`UnscheduledOperationsObserver`) new feature columns / helper arrays.  `Edits N lo w w'` records a sequence of such edits;
`construct`, `constructResidual`, the helper look-ups and the `reset()` of the tunable observers are such sequences
(`*_edits`), every other callback writes one record (`callReset_own`, `callUpdate_eq`), and `constructComposite` is a push
followed by one write of the pushed composite.  What the later files need to know about a whole operation (kinds never change,
reward / history / residual observers are left alone, unsubscribed entries are never written, constructors keep every existing
entry) is then a three-case induction over `Edits`, or read off `step_ctor`.

`lo`: edits only rewrite ids `≥ lo`.  Constructors take `lo` = the length of the heap they start from (they write only what
they have just pushed); `reset()` callbacks take `0`.
-/
namespace JS

/-- the single-column feature observers and the `UnscheduledOperationsObserver`: the observers that constructors and
`reset()` callbacks of OTHER observers may rewrite -/
def FKind.tunable : FKind → Bool
  | .composite | .history | .makespanReward | .idleReward | .residual => false
  | _ => true

/-- an observer without the arrays that callbacks recompute -/
def FObs.frame (o : FObs) : FObs := { o with cols := [], est := [], remJob := [], remMach := [], deques := [] }

/-- `o'` is `o` with recomputed arrays (the `UnscheduledOperationsObserver` has no feature columns: only its deques change) -/
def Tunes (o o' : FObs) : Prop := o.kind.tunable = true ∧ o'.frame = o.frame ∧ (o.kind = .unscheduled → o'.cols = o.cols)

theorem kind_of_frame {o o' : FObs} (h : o'.frame = o.frame) : o'.kind = o.kind :=
  show o'.frame.kind = o.frame.kind from congrArg FObs.kind h

theorem Tunes.kind {o o' : FObs} (h : Tunes o o') : o'.kind = o.kind := kind_of_frame h.2.1
theorem Tunes.fts {o o' : FObs} (h : Tunes o o') : o'.fts = o.fts :=
  show o'.frame.fts = o.frame.fts from congrArg FObs.fts h.2.1
theorem Tunes.tunable {o o' : FObs} (h : Tunes o o') : o'.kind.tunable = true := h.kind ▸ h.1

theorem Tunes.trans {a b c : FObs} (h1 : Tunes a b) (h2 : Tunes b c) : Tunes a c :=
  ⟨h1.1, h2.2.1.trans h1.2.1, fun h => (h2.2.2 (h1.kind.trans h)).trans (h1.2.2 h)⟩

theorem frame_foldl {α} (f : FObs → α → FObs) (hf : ∀ o a, (f o a).frame = o.frame) :
    ∀ (l : List α) (o : FObs), (l.foldl f o).frame = o.frame
  | [], _ => rfl
  | a :: t, o => by rw [List.foldl_cons, frame_foldl f hf t, hf]

theorem frame_assignCols (o : FObs) (g : FObs → FT → List Int) : (o.assignCols g).frame = o.frame :=
  frame_foldl (fun o ft => o.setCol ft (g o ft)) (fun _ _ => rfl) _ _

theorem frame_isReadyFeatures (c : Cfg) (s : State) (o : FObs) : (isReadyFeatures c s o).frame = o.frame :=
  frame_assignCols _ _
theorem frame_estFeatures (c : Cfg) (s : State) (o : FObs) : (estFeatures c s o).frame = o.frame := frame_assignCols _ _
theorem frame_durationInit (c : Cfg) (s : State) (o : FObs) : (durationInit c s o).frame = o.frame := frame_assignCols _ _

theorem frame_positionInit (c : Cfg) (s : State) (o : FObs) : (positionInit c s o).frame = o.frame := by
  unfold positionInit; split <;> rfl

theorem frame_ite {b : Bool} {o o1 : FObs} (h : o1.frame = o.frame) : (if b = true then o1 else o).frame = o.frame := by
  cases b
  · rfl
  · exact h

theorem frame_remainingInit (c : Cfg) (dq : List (List OpRef)) (o : FObs) : (remainingInit c dq o).frame = o.frame := by
  refine frame_foldl _ (fun o r => ?_) _ _
  dsimp only
  refine (frame_ite ?_).trans (frame_ite ?_)
  · split <;> rfl
  · rfl

theorem getD_of_get {w : FWorld} {id : Nat} {o : FObs} (h : w.heap[id]? = some o) : w.heap.getD id default = o := by
  simp [List.getD_eq_getElem?_getD, h]

theorem push_heap_new (w : FWorld) (o : FObs) : (w.push o).1.heap[w.heap.length]? = some o := by simp [FWorld.push]

theorem heap_lt {w : FWorld} {k : Nat} {o : FObs} (h : w.heap[k]? = some o) : k < w.heap.length :=
  (List.getElem?_eq_some_iff.1 h).1

theorem push_heap_old (w : FWorld) (o : FObs) {k : Nat} (h : k < w.heap.length) : (w.push o).1.heap[k]? = w.heap[k]? := by
  simp only [FWorld.push]
  rw [List.getElem?_append_left h]

theorem setObs_heap_self {w : FWorld} {id : Nat} (hlt : id < w.heap.length) (o' : FObs) :
    (w.setObs id o').heap[id]? = some o' := by
  simp [FWorld.setObs, hlt]

theorem setObs_heap_ne (w : FWorld) {id k : Nat} (hne : id ≠ k) (o' : FObs) :
    (w.setObs id o').heap[k]? = w.heap[k]? := by
  simp only [FWorld.setObs]
  rw [List.getElem?_set_ne hne]

theorem push_heap_cases {w : FWorld} {o o' : FObs} {k : Nat} (h : (w.push o).1.heap[k]? = some o') :
    w.heap[k]? = some o' ∨ (k = w.heap.length ∧ o' = o) := by
  by_cases hlt : k < w.heap.length
  · rw [push_heap_old w o hlt] at h; exact Or.inl h
  · have hk := heap_lt h
    simp only [FWorld.push, List.length_append, List.length_singleton] at hk
    obtain rfl : k = w.heap.length := by omega
    rw [push_heap_new] at h
    exact Or.inr ⟨rfl, (Option.some.inj h).symm⟩

theorem setObs_heap_cases {w : FWorld} {id k : Nat} {o o' : FObs} (h : (w.setObs id o).heap[k]? = some o') :
    (k = id ∧ o' = o) ∨ (k ≠ id ∧ w.heap[k]? = some o') := by
  by_cases hik : id = k
  · subst hik
    have hlt := heap_lt h
    simp only [FWorld.setObs, List.length_set] at hlt
    rw [setObs_heap_self hlt] at h
    exact Or.inl ⟨rfl, (Option.some.inj h).symm⟩
  · rw [setObs_heap_ne w hik] at h
    exact Or.inr ⟨fun e => hik e.symm, h⟩

/-- `w'` is `w` after pushes of observers satisfying `N` and rewrites (`Tunes`) of subscribed entries at ids `≥ lo` -/
inductive Edits (N : FObs → Prop) (lo : Nat) (w : FWorld) : FWorld → Prop
  | refl : Edits N lo w w
  | push {w' : FWorld} (o : FObs) : Edits N lo w w' → N o → Edits N lo w (w'.push o).1
  | set {w' : FWorld} {id : Nat} {o : FObs} (o' : FObs) : Edits N lo w w' → lo ≤ id → id ∈ w'.subs →
      w'.heap[id]? = some o → Tunes o o' → Edits N lo w (w'.setObs id o')

namespace Edits
variable {N : FObs → Prop} {lo : Nat} {w w' : FWorld}

theorem trans {w'' : FWorld} (h1 : Edits N lo w w') (h2 : Edits N lo w' w'') : Edits N lo w w'' := by
  induction h2 with
  | refl => exact h1
  | push o _ hn ih => exact ih.push o hn
  | set o' _ hlo hid ho ht ih => exact ih.set o' hlo hid ho ht

theorem mono {N' : FObs → Prop} {lo' : Nat} (h : Edits N lo w w') (hN : ∀ o, N o → N' o) (hlo : lo' ≤ lo) :
    Edits N' lo' w w' := by
  induction h with
  | refl => exact .refl
  | push o _ hn ih => exact ih.push o (hN o hn)
  | set o' _ hl hid ho ht ih => exact ih.set o' (Nat.le_trans hlo hl) hid ho ht

theorem cfg (h : Edits N lo w w') : w'.cfg = w.cfg := by
  induction h with
  | refl => rfl
  | push _ _ _ ih => exact ih
  | set _ _ _ _ _ _ ih => exact ih

theorem s (h : Edits N lo w w') : w'.s = w.s := by
  induction h with
  | refl => rfl
  | push _ _ _ ih => exact ih
  | set _ _ _ _ _ _ ih => exact ih

theorem len (h : Edits N lo w w') : w.heap.length ≤ w'.heap.length := by
  induction h with
  | refl => exact Nat.le_refl _
  | push _ _ _ ih => simp only [FWorld.push, List.length_append, List.length_singleton]; omega
  | set _ _ _ _ _ _ ih => simpa only [FWorld.setObs, List.length_set] using ih

theorem subs (h : Edits N lo w w') :
    w'.subs = w.subs ++ List.range' w.heap.length (w'.heap.length - w.heap.length) := by
  induction h with
  | refl => simp
  | @push w1 o h1 _ ih =>
    have := h1.len
    simp only [FWorld.push, List.length_append, List.length_singleton]
    rw [ih, List.append_assoc, show w1.heap.length + 1 - w.heap.length = (w1.heap.length - w.heap.length) + 1 by omega,
      List.range'_concat, show w.heap.length + 1 * (w1.heap.length - w.heap.length) = w1.heap.length by omega]
  | set _ _ _ _ _ _ ih => simpa only [FWorld.setObs, List.length_set] using ih

theorem mem_subs (h : Edits N lo w w') {k : Nat} (hk : k ∈ w.subs) : k ∈ w'.subs := by
  rw [h.subs]; exact List.mem_append_left _ hk

theorem old (h : Edits N lo w w') {k : Nat} {o : FObs} (ho : w.heap[k]? = some o) :
    ∃ o', w'.heap[k]? = some o' ∧ (o' = o ∨ (lo ≤ k ∧ Tunes o o')) := by
  induction h with
  | refl => exact ⟨o, ho, Or.inl rfl⟩
  | @push w1 x _ _ ih =>
    obtain ⟨o1, h1, r1⟩ := ih
    exact ⟨o1, (push_heap_old w1 x (heap_lt h1)).trans h1, r1⟩
  | @set w1 id x x' _ hlo _ hx ht ih =>
    obtain ⟨o1, h1, r1⟩ := ih
    by_cases hik : id = k
    · subst hik
      rw [hx] at h1; cases h1
      refine ⟨x', setObs_heap_self (heap_lt hx) x', Or.inr ⟨hlo, ?_⟩⟩
      rcases r1 with rfl | ⟨_, r1⟩
      · exact ht
      · exact r1.trans ht
    · exact ⟨o1, (setObs_heap_ne w1 hik x').trans h1, r1⟩

theorem new (h : Edits N lo w w') {k : Nat} {o' : FObs} (hk : w.heap.length ≤ k) (ho' : w'.heap[k]? = some o') :
    ∃ o, N o ∧ (o' = o ∨ Tunes o o') := by
  induction h generalizing o' with
  | refl => have := heap_lt ho'; omega
  | @push w1 x h1 hn ih =>
    rcases push_heap_cases ho' with h | ⟨_, rfl⟩
    · exact ih h
    · exact ⟨_, hn, Or.inl rfl⟩
  | @set w1 id x x' _ _ _ hx ht ih =>
    rcases setObs_heap_cases ho' with ⟨rfl, rfl⟩ | ⟨_, h⟩
    · obtain ⟨o, hn, r⟩ := ih hx
      refine ⟨o, hn, Or.inr ?_⟩
      rcases r with rfl | r
      · exact ht
      · exact r.trans ht
    · exact ih h

theorem keep (h : Edits N w.heap.length w w') {k : Nat} {o : FObs} (ho : w.heap[k]? = some o) : w'.heap[k]? = some o := by
  obtain ⟨o', h1, r⟩ := h.old ho
  rcases r with rfl | ⟨hle, _⟩
  · exact h1
  · have := heap_lt ho; omega

end Edits

/-- a subscribed observer of kind `k` at `id`, observing (at least) the feature types `need` -/
def SubAt (w : FWorld) (id : Nat) (k : FKind) (need : List FT := []) : Prop :=
  id ∈ w.subs ∧ ∃ o, w.heap[id]? = some o ∧ o.kind = k ∧ ∀ ft ∈ need, ft ∈ o.fts

theorem SubAt.edits {N : FObs → Prop} {lo : Nat} {w w' : FWorld} {id : Nat} {k : FKind} {need : List FT}
    (h : SubAt w id k need) (e : Edits N lo w w') : SubAt w' id k need := by
  obtain ⟨hs, o, ho, hk, hf⟩ := h
  obtain ⟨o', ho', r⟩ := e.old ho
  refine ⟨e.mem_subs hs, o', ho', ?_⟩
  rcases r with rfl | ⟨_, r⟩
  · exact ⟨hk, hf⟩
  · exact ⟨r.kind.trans hk, fun ft hft => r.fts ▸ hf ft hft⟩

theorem subAt_push (w : FWorld) (o : FObs) : SubAt (w.push o).1 w.heap.length o.kind o.fts :=
  ⟨by simp [FWorld.push], o, by simp [FWorld.push], rfl, fun _ h => h⟩

theorem findObs_subAt {w : FWorld} {kind : FKind} {need : List FT} {id : Nat} (h : w.findObs kind need = some id) :
    SubAt w id kind need := by
  unfold FWorld.findObs at h
  refine ⟨List.mem_of_find?_eq_some h, ?_⟩
  have := List.find?_some h
  cases ho : w.heap[id]? with
  | none => simp [ho] at this
  | some o =>
    simp only [ho, Bool.and_eq_true, beq_iff_eq, List.all_eq_true, List.contains_eq_mem, decide_eq_true_eq] at this
    exact ⟨o, rfl, this.1, this.2⟩

/-- the observers the helpers push: an `UnscheduledOperationsObserver`, or a zeroed `RemainingOperationsObserver` /
`IsCompletedObserver` -/
inductive HelperObs (I : Instance) : FObs → Prop
  | unscheduled (dq : List (List OpRef)) : HelperObs I { kind := .unscheduled, deques := dq }
  | remaining (fts : List FT) : HelperObs I (({ kind := .remainingOps, fts := fts } : FObs).zeroed I)
  | completed (fts : List FT) : HelperObs I (({ kind := .isCompleted, fts := fts } : FObs).zeroed I)

theorem getUnscheduled_edits (w : FWorld) (lo : Nat) :
    Edits (HelperObs w.cfg.I) lo w w.getUnscheduled.1 ∧ SubAt w.getUnscheduled.1 w.getUnscheduled.2 .unscheduled := by
  unfold FWorld.getUnscheduled
  cases hf : w.findObs .unscheduled [] with
  | some id => exact ⟨.refl, findObs_subAt hf⟩
  | none => exact ⟨Edits.refl.push _ (.unscheduled _), subAt_push w _⟩

theorem getUnscheduled_keep (w : FWorld) {k : Nat} {o : FObs} (h : w.heap[k]? = some o) :
    w.getUnscheduled.1.heap[k]? = some o :=
  (getUnscheduled_edits w w.heap.length).1.keep h

variable {lo : Nat} {w : FWorld}

theorem Edits.setAt {N : FObs → Prop} {w w' : FWorld} {id : Nat} {k : FKind} {need : List FT} (e : Edits N lo w w')
    (h : SubAt w' id k need) (hlo : lo ≤ id) (hk : k.tunable = true) (o' : FObs)
    (ho' : ∀ o, w'.heap[id]? = some o → o'.frame = o.frame ∧ (k = .unscheduled → o'.cols = o.cols)) :
    Edits N lo w (w'.setObs id o') ∧ SubAt (w'.setObs id o') id k need := by
  obtain ⟨hs, o, ho, hko, hf⟩ := h
  have ht : Tunes o o' := ⟨hko ▸ hk, (ho' o ho).1, fun h => (ho' o ho).2 (hko.symm.trans h)⟩
  exact ⟨e.set o' hlo hs ho ht, hs, o', setObs_heap_self (heap_lt ho) o', ht.kind.trans hko,
    fun ft hft => ht.fts ▸ hf ft hft⟩

theorem newRemaining_edits (w : FWorld) (fts : List FT) (hlo : lo ≤ w.heap.length) :
    Edits (HelperObs w.cfg.I) lo w (w.newRemaining fts).1 ∧ SubAt (w.newRemaining fts).1 (w.newRemaining fts).2 .remainingOps fts := by
  unfold FWorld.newRemaining
  simp only [show ∀ o, (w.push o).2 = w.heap.length from fun _ => rfl]
  have e1 : Edits (HelperObs w.cfg.I) lo w _ := Edits.refl.push _ (.remaining fts)
  have k1 := subAt_push w (({ kind := .remainingOps, fts := fts } : FObs).zeroed w.cfg.I)
  generalize (w.push (({ kind := .remainingOps, fts := fts } : FObs).zeroed w.cfg.I)).1 = w1 at e1 k1
  obtain ⟨e2, _⟩ := getUnscheduled_edits w1 lo
  rw [e1.cfg] at e2
  refine (e1.trans e2).setAt (k1.edits e2) hlo rfl _ (fun o ho => ⟨?_, nofun⟩)
  rw [getD_of_get ho]; exact frame_remainingInit _ _ _

theorem getRemaining_edits (w : FWorld) (need : List FT) (hlo : lo ≤ w.heap.length) :
    Edits (HelperObs w.cfg.I) lo w (w.getRemaining need).1 ∧ SubAt (w.getRemaining need).1 (w.getRemaining need).2 .remainingOps need := by
  unfold FWorld.getRemaining
  cases hf : w.findObs .remainingOps need with
  | some id => exact ⟨.refl, findObs_subAt hf⟩
  | none => exact newRemaining_edits w need hlo

theorem isCompletedInit_edits {id : Nat} {need : List FT} (h : SubAt w id .isCompleted need) (hid : lo ≤ id)
    (hlo : lo ≤ w.heap.length) :
    Edits (HelperObs w.cfg.I) lo w (w.isCompletedInit id) ∧ SubAt (w.isCompletedInit id) id .isCompleted need := by
  unfold FWorld.isCompletedInit
  simp only
  obtain ⟨e1, k1⟩ := (Edits.refl (N := HelperObs w.cfg.I) (lo := lo) (w := w)).setAt h hid rfl
    ((w.heap.getD id default).zeroed w.cfg.I) (fun o ho => ⟨by rw [getD_of_get ho]; rfl, nofun⟩)
  generalize w.setObs id ((w.heap.getD id default).zeroed w.cfg.I) = w1 at e1 k1
  generalize ((w.heap.getD id default).zeroed w.cfg.I).fts.filter (· != .operations) = rneed
  obtain ⟨e2, _⟩ := getRemaining_edits (lo := lo) w1 rneed (Nat.le_trans hlo e1.len)
  rw [e1.cfg] at e2
  generalize w1.getRemaining rneed = r at e2
  obtain ⟨w2, rid⟩ := r
  refine (e1.trans e2).setAt (k1.edits e2) hid rfl _ (fun o ho => ⟨?_, nofun⟩)
  rw [getD_of_get ho]; rfl

theorem resetRemaining_edits {id : Nat} {need : List FT} (h : SubAt w id .remainingOps need) :
    Edits (HelperObs w.cfg.I) 0 w (w.resetRemaining id) ∧ SubAt (w.resetRemaining id) id .remainingOps need := by
  unfold FWorld.resetRemaining
  simp only
  obtain ⟨e1, k1⟩ := getUnscheduled_edits w 0
  generalize w.getUnscheduled = r at e1 k1
  obtain ⟨w1, uid⟩ := r
  obtain ⟨e2, _⟩ := e1.setAt k1 (Nat.zero_le _) rfl { w1.heap.getD uid default with deques := fullDequesF w1.cfg.I }
    (fun o ho => by rw [getD_of_get ho]; exact ⟨rfl, fun _ => rfl⟩)
  refine e2.setAt (h.edits e2) (Nat.zero_le _) rfl _ (fun o ho => ⟨?_, nofun⟩)
  rw [getD_of_get ho]; exact frame_remainingInit _ _ _

theorem getIsCompleted_edits (w : FWorld) (need : List FT) :
    Edits (HelperObs w.cfg.I) w.heap.length w (w.getIsCompleted need).1 ∧
      SubAt (w.getIsCompleted need).1 (w.getIsCompleted need).2 .isCompleted need := by
  unfold FWorld.getIsCompleted
  cases hf : w.findObs .isCompleted need with
  | some id => exact ⟨.refl, findObs_subAt hf⟩
  | none =>
    simp only
    have e1 : Edits (HelperObs w.cfg.I) w.heap.length w _ := Edits.refl.push _ (.completed need)
    obtain ⟨e2, k2⟩ := isCompletedInit_edits (lo := w.heap.length) (subAt_push w _) (Nat.le_refl _) e1.len
    exact ⟨e1.trans (e1.cfg ▸ e2), k2⟩

/-- the observers `construct kind` pushes: helpers, or the observer asked for in its initial state -/
inductive NewObs (w : FWorld) (kind : FKind) : FObs → Prop
  | helper {o : FObs} : HelperObs w.cfg.I o → NewObs w kind o
  | history : kind = .history → NewObs w kind { kind := .history }
  | makespan : kind = .makespanReward → NewObs w kind { kind := .makespanReward, curMakespan := makespan w.s }
  | idle : kind = .idleReward → NewObs w kind { kind := .idleReward }
  | feature (l : List FT) (est : List (List Int)) : kind.tunable = true →
      NewObs w kind (({ kind := kind, fts := l, est := est } : FObs).zeroed w.cfg.I)

theorem Edits.pushInit (w : FWorld) {kind : FKind} (hk : kind.tunable = true) (l : List FT) (est : List (List Int))
    (o' : FObs) (ho' : o'.frame = (({ kind := kind, fts := l, est := est } : FObs).zeroed w.cfg.I).frame)
    (hu : kind ≠ .unscheduled) :
    Edits (NewObs w kind) w.heap.length w
      ((w.push (({ kind := kind, fts := l, est := est } : FObs).zeroed w.cfg.I)).1.setObs w.heap.length o') :=
  ((Edits.refl.push _ (.feature l est hk)).setAt (subAt_push w _) (Nat.le_refl _) hk o' (fun o ho => by
    rw [push_heap_new] at ho; cases ho; exact ⟨ho', fun h => absurd h hu⟩)).1

theorem construct_edits (w : FWorld) (kind : FKind) (fts : Option (List FT)) :
    Edits (NewObs w kind) w.heap.length w (w.construct kind fts).1 := by
  have single : ∀ o, NewObs w kind o →
      Edits (NewObs w kind) w.heap.length w
        (if w.subs.any (fun id => (w.heap[id]?.map (·.kind)) == some kind) then (w, none) else ((w.push o).1, some w.heap.length)).1 := by
    intro o ho; split
    · exact .refl
    · exact Edits.refl.push o ho
  cases kind
  case unscheduled => exact single _ (.helper (.unscheduled _))
  case history => exact single _ (.history rfl)
  case makespanReward => exact single _ (.makespan rfl)
  case idleReward => exact single _ (.idle rfl)
  case composite => exact .refl
  case residual => exact .refl
  all_goals
    simp only [FWorld.construct]
    cases resolveFts _ fts with
    | none => exact .refl
    | some l => ?_
  case isReady => exact Edits.pushInit w rfl l _ _ (frame_isReadyFeatures _ _ _) nofun
  case earliestStart => exact Edits.pushInit w rfl l _ _ (frame_estFeatures _ _ _) nofun
  case duration => exact Edits.pushInit w rfl l _ _ (frame_durationInit _ _ _) nofun
  case isScheduled => exact Edits.refl.push _ (.feature l _ rfl)
  case positionInJob => exact Edits.pushInit w rfl l _ _ (frame_positionInit _ _ _) nofun
  case remainingOps =>
    have e1 : Edits (NewObs w .remainingOps) w.heap.length w _ := Edits.refl.push _ (.feature l [] rfl)
    obtain ⟨e2, _⟩ := getUnscheduled_edits (w.push (({ kind := .remainingOps, fts := l } : FObs).zeroed w.cfg.I)).1
      (w.push (({ kind := .remainingOps, fts := l } : FObs).zeroed w.cfg.I)).1.heap.length
    have e2' := e2.mono (N' := NewObs w .remainingOps) (fun _ h => .helper h) e1.len
    exact ((e1.trans e2').setAt ((subAt_push w _).edits e2) (Nat.le_refl _) rfl _
      (fun o ho => by rw [e2.keep (push_heap_new w _)] at ho; cases ho; exact ⟨frame_remainingInit _ _ _, nofun⟩)).1
  case isCompleted =>
    have e1 : Edits (NewObs w .isCompleted) w.heap.length w _ := Edits.refl.push _ (.feature l [] rfl)
    obtain ⟨e2, _⟩ := isCompletedInit_edits (lo := w.heap.length) (subAt_push w (({ kind := .isCompleted, fts := l } : FObs).zeroed w.cfg.I))
      (Nat.le_refl _) e1.len
    exact e1.trans (e2.mono (N' := NewObs w .isCompleted) (fun _ h => .helper h) (Nat.le_refl _))

theorem constructResidual_edits (w : FWorld) (g : Graph) (rm rj : Bool) :
    Edits (fun o => HelperObs w.cfg.I o ∨
        ∃ parts, o = { kind := .residual, parts := parts, graph := g, graph0 := g, rmMach := rm, rmJob := rj })
      w.heap.length w (w.constructResidual g rm rj).1 := by
  unfold FWorld.constructResidual
  split
  · exact .refl
  · simp only
    generalize (if rm then [FT.machines] else []) ++ (if rj then [FT.jobs] else []) = need
    by_cases h : need.isEmpty = true
    · rw [if_pos h]; exact .push _ .refl (Or.inr ⟨_, rfl⟩)
    · rw [if_neg h]
      exact .push _ ((getIsCompleted_edits w need).1.mono (fun _ => Or.inl) (Nat.le_refl _)) (Or.inr ⟨_, rfl⟩)

/-- the observers a constructor event can leave in the heap that are not tunable -/
inductive OwnObs (w : FWorld) : FObs → Prop
  | history : OwnObs w { kind := .history }
  | makespan : OwnObs w { kind := .makespanReward, curMakespan := makespan w.s }
  | idle : OwnObs w { kind := .idleReward }
  | composite (ps : List Nat) (hp : List FObs) :
      OwnObs w { kind := .composite, parts := ps, cols := compositeCols hp ps, fts := (compositeCols hp ps).map (·.1),
                 names := compositeNames hp ps }
  | residual (parts : List Nat) (g : Graph) (rm rj : Bool) :
      OwnObs w { kind := .residual, parts := parts, graph := g, graph0 := g, rmMach := rm, rmJob := rj }

theorem HelperObs.tunable {I : Instance} {o : FObs} (h : HelperObs I o) : o.kind.tunable = true := by
  cases h <;> rfl

/-- **constructor events, in any dispatcher state**: configuration, dispatcher state and every existing heap entry are kept, the
subscriber list grows by the ids of the new entries, and a new entry is a tunable observer or one of `OwnObs` -/
theorem step_ctor (w : FWorld) (e : FEv) (hd : ∀ j p m, e ≠ .disp j p m) (hr : e ≠ .reset) :
    (w.step e).cfg = w.cfg ∧ (w.step e).s = w.s ∧ w.heap.length ≤ (w.step e).heap.length ∧
    (w.step e).subs = w.subs ++ List.range' w.heap.length ((w.step e).heap.length - w.heap.length) ∧
    (∀ (k : Nat) (o : FObs), w.heap[k]? = some o → (w.step e).heap[k]? = some o) ∧
    ∀ (k : Nat) (o' : FObs), w.heap.length ≤ k → (w.step e).heap[k]? = some o' → o'.kind.tunable = true ∨ OwnObs w o' := by
  have of_edits : ∀ {N : FObs → Prop} {w' : FWorld}, Edits N w.heap.length w w' →
      (∀ o, N o → o.kind.tunable = true ∨ OwnObs w o) →
      w'.cfg = w.cfg ∧ w'.s = w.s ∧ w.heap.length ≤ w'.heap.length ∧
      w'.subs = w.subs ++ List.range' w.heap.length (w'.heap.length - w.heap.length) ∧
      (∀ (k : Nat) (o : FObs), w.heap[k]? = some o → w'.heap[k]? = some o) ∧
      ∀ (k : Nat) (o' : FObs), w.heap.length ≤ k → w'.heap[k]? = some o' → o'.kind.tunable = true ∨ OwnObs w o' := by
    intro N w' h hN
    refine ⟨h.cfg, h.s, h.len, h.subs, fun k o ho => h.keep ho, fun k o' hk ho' => ?_⟩
    obtain ⟨o, hn, r⟩ := h.new hk ho'
    rcases r with rfl | r
    · exact hN _ hn
    · exact Or.inl r.tunable
  cases e with
  | disp j p m => exact absurd rfl (hd j p m)
  | reset => exact absurd rfl hr
  | construct kind fts =>
    refine of_edits (construct_edits w kind fts) (fun o ho => ?_)
    cases ho with
    | helper h => exact Or.inl h.tunable
    | history _ => exact Or.inr .history
    | makespan _ => exact Or.inr .makespan
    | idle _ => exact Or.inr .idle
    | feature l est hk => exact Or.inl hk
  | residual b rm rj =>
    refine of_edits (constructResidual_edits w _ rm rj) (fun o ho => ?_)
    rcases ho with h | ⟨parts, rfl⟩
    · exact Or.inl h.tunable
    · exact Or.inr (.residual _ _ _ _)
  | composite parts =>
    simp only [FWorld.step, FWorld.constructComposite, FWorld.push, FWorld.setObs, List.length_set, List.length_append,
      List.length_singleton, Nat.add_sub_cancel_left, List.range'_one]
    refine ⟨trivial, trivial, Nat.le_add_right _ _, trivial, fun k o ho => ?_, fun k o' hk ho' => ?_⟩
    · have hlt := (List.getElem?_eq_some_iff.1 ho).1
      rw [List.getElem?_set_ne (Nat.ne_of_gt hlt), List.getElem?_append_left hlt]; exact ho
    · have hlt := (List.getElem?_eq_some_iff.1 ho').1
      simp only [List.length_set, List.length_append, List.length_singleton] at hlt
      obtain rfl : k = w.heap.length := by omega
      rw [List.getElem?_set_self (by simp)] at ho'
      cases ho'
      exact Or.inr (.composite _ _)

/-- a successful `constructResidual`: the helper is looked up or created (`w1`), then the updater is pushed; it records no
helper when neither kind of node is to be removed, else the id of a subscribed `IsCompletedObserver` observing what it reads -/
theorem constructResidual_some {w' : FWorld} {g : Graph} {rm rj : Bool} {uid : Nat}
    (h : w.constructResidual g rm rj = (w', some uid)) :
    ∃ (w1 : FWorld) (parts : List Nat), Edits (HelperObs w.cfg.I) w.heap.length w w1 ∧ uid = w1.heap.length ∧
      w' = (w1.push ({ kind := .residual, parts := parts, graph := g, graph0 := g, rmMach := rm, rmJob := rj } : FObs)).1 ∧
      ((rm = false ∧ rj = false ∧ parts = []) ∨ ((rm = true ∨ rj = true) ∧ ∃ p, parts = [p] ∧
        SubAt w1 p .isCompleted ((if rm then [FT.machines] else []) ++ (if rj then [FT.jobs] else [])))) := by
  unfold FWorld.constructResidual at h
  split at h
  · cases h
  · simp only at h
    by_cases h2 : ((if rm then [FT.machines] else []) ++ (if rj then [FT.jobs] else [])).isEmpty = true
    · rw [if_pos h2] at h
      cases h
      refine ⟨w, [], .refl, rfl, rfl, Or.inl ?_⟩
      cases rm <;> cases rj <;> simp at h2 ⊢
    · rw [if_neg h2] at h
      cases h
      obtain ⟨e, k⟩ := getIsCompleted_edits w ((if rm then [FT.machines] else []) ++ (if rj then [FT.jobs] else []))
      refine ⟨_, _, e, rfl, rfl, Or.inr ⟨?_, _, rfl, k⟩⟩
      cases rm <;> cases rj <;> simp at h2 ⊢

/-- `reset()` of the observers that write nothing but their own record -/
def resetOwn (w : FWorld) (o : FObs) : FObs :=
  match o.kind with
  | .composite => { o with cols := compositeCols w.heap o.parts, fts := (compositeCols w.heap o.parts).map (·.1) }
  | .history => { o with hist := [] }
  | .makespanReward => { o with rewards := [], curMakespan := makespan w.s }
  | .idleReward => { o with rewards := [] }
  | .residual => { o with graph := o.graph0 }
  | _ => o

theorem callReset_none {id : Nat} (h : w.heap[id]? = none) : w.callReset id = w := by
  unfold FWorld.callReset; rw [h]

theorem callReset_own {id : Nat} {o : FObs} (ho : w.heap[id]? = some o) (hk : o.kind.tunable = false) :
    w.callReset id = w.setObs id (resetOwn w o) := by
  unfold FWorld.callReset resetOwn
  simp only [ho]
  cases hk' : o.kind <;> first | rfl | (rw [hk'] at hk; cases hk)

theorem callReset_edits {id : Nat} {o : FObs} (hid : id ∈ w.subs) (ho : w.heap[id]? = some o)
    (hk : o.kind.tunable = true) : Edits (HelperObs w.cfg.I) 0 w (w.callReset id) := by
  have hsub : SubAt w id o.kind := ⟨hid, o, ho, rfl, fun _ h => nomatch h⟩
  have one : ∀ o' : FObs, o'.frame = o.frame → (o.kind = .unscheduled → o'.cols = o.cols) →
      Edits (HelperObs w.cfg.I) 0 w (w.setObs id o') := fun o' h hc => Edits.refl.set o' (Nat.zero_le _) hid ho ⟨hk, h, hc⟩
  unfold FWorld.callReset
  simp only [ho]
  -- the kinds in the order of `FWorld.callReset`: isReady, earliestStart, duration, isScheduled, positionInJob, remainingOps,
  -- isCompleted, composite, unscheduled, then those that are not tunable
  split
  · rename_i hk'; exact one _ (frame_isReadyFeatures _ _ _) (fun h => nomatch hk'.symm.trans h)
  · rename_i hk'; exact one _ ((frame_estFeatures _ _ _).trans rfl) (fun h => nomatch hk'.symm.trans h)
  · rename_i hk'; exact one _ ((frame_durationInit _ _ _).trans rfl) (fun h => nomatch hk'.symm.trans h)
  · rename_i hk'; exact one _ rfl (fun h => nomatch hk'.symm.trans h)
  · rename_i hk'; exact one _ ((frame_positionInit _ _ _).trans rfl) (fun h => nomatch hk'.symm.trans h)
  · rename_i hk'; exact (resetRemaining_edits (hk' ▸ hsub)).1
  · rename_i hk'
    obtain ⟨e1, k1⟩ := getRemaining_edits (lo := 0) w (o.fts.filter (· != .operations)) (Nat.zero_le _)
    generalize w.getRemaining (o.fts.filter (· != .operations)) = r at e1 k1
    obtain ⟨w1, rid⟩ := r
    obtain ⟨e2, _⟩ := resetRemaining_edits k1
    obtain ⟨e3, _⟩ := isCompletedInit_edits (lo := 0) ((hk' ▸ hsub).edits (e1.trans (e1.cfg ▸ e2))) (Nat.zero_le _) (Nat.zero_le _)
    rw [e2.cfg, e1.cfg] at e3; rw [e1.cfg] at e2
    exact e1.trans (e2.trans e3)
  · rename_i hk'; rw [hk'] at hk; cases hk
  · exact one _ rfl (fun _ => rfl)
  all_goals (rename_i hk'; rw [hk'] at hk; cases hk)

theorem resetOwn_kind (w : FWorld) (o : FObs) : (resetOwn w o).kind = o.kind := by
  unfold resetOwn; split <;> rfl

theorem callReset_mem_subs {id k : Nat} (hid : id ∈ w.subs) (hk : k ∈ w.subs) : k ∈ (w.callReset id).subs := by
  cases ho : w.heap[id]? with
  | none => rw [callReset_none ho]; exact hk
  | some o =>
    cases ht : o.kind.tunable with
    | true => exact (callReset_edits hid ho ht).mem_subs hk
    | false => rw [callReset_own ho ht]; exact hk

/-- the loops over the subscribers (`Dispatcher.reset`, the notifications of `dispatch`): a property of worlds that every
callback on a subscriber keeps, provided callbacks keep subscribers subscribed -/
theorem foldl_subs {f : FWorld → Nat → FWorld} {P : FWorld → Prop}
    (hsubs : ∀ w id k, id ∈ w.subs → k ∈ w.subs → k ∈ (f w id).subs) (step : ∀ w id, id ∈ w.subs → P w → P (f w id)) :
    ∀ (l : List Nat) (w : FWorld), (∀ id ∈ l, id ∈ w.subs) → P w → P (l.foldl f w)
  | [], _, _, h => h
  | a :: t, w, hl, h => by
    have ha := hl a (List.mem_cons_self ..)
    exact foldl_subs hsubs step t _ (fun k hk => hsubs w a k ha (hl k (List.mem_cons_of_mem _ hk))) (step w a ha h)

theorem reset_kind {k : Nat} {o : FObs} (ho : w.heap[k]? = some o) : ∃ o', w.reset.heap[k]? = some o' ∧ o'.kind = o.kind := by
  refine foldl_subs (P := fun W => ∃ o', W.heap[k]? = some o' ∧ o'.kind = o.kind) (fun _ _ _ => callReset_mem_subs)
    (fun W id hid ⟨o1, h1, k1⟩ => ?_) w.subs { w with s := JS.init w.cfg.I } (fun _ h => h) ⟨o, ho, rfl⟩
  cases hx : W.heap[id]? with
  | none => rw [callReset_none hx]; exact ⟨o1, h1, k1⟩
  | some x =>
    cases ht : x.kind.tunable with
    | true =>
      obtain ⟨o2, h2, r⟩ := (callReset_edits hid hx ht).old h1
      refine ⟨o2, h2, ?_⟩
      rcases r with rfl | ⟨_, r⟩
      · exact k1
      · exact r.kind.trans k1
    | false =>
      rw [callReset_own hx ht]
      by_cases hik : id = k
      · subst hik
        rw [hx] at h1; cases h1
        exact ⟨_, setObs_heap_self (heap_lt hx) _, (resetOwn_kind W _).trans k1⟩
      · exact ⟨o1, (setObs_heap_ne W hik _).trans h1, k1⟩

/-- what `observer.update(x)` makes of observer `o` (`heap`: the heap it reads, for composites and the residual
updater) -/
def updObs (c : Cfg) (s : State) (x : SOp) (heap : List FObs) (o : FObs) : FObs :=
  match o.kind with
  | .isReady => isReadyFeatures c s o
  | .earliestStart => estFeatures c s { o with est := estCompute c.I s o.est }
  | .duration => durationUpdate c s x o
  | .isScheduled => isScheduledUpdate c s x o
  | .positionInJob => positionUpdate c x o
  | .remainingOps => remainingUpdate x o
  | .isCompleted => isCompletedUpdate c s x o
  | .composite => { o with cols := compositeCols heap o.parts, fts := (compositeCols heap o.parts).map (·.1) }
  | .unscheduled => { o with deques := popJobF o.deques x.job }
  | .history => { o with hist := o.hist ++ [x] }
  | .makespanReward =>
    { o with curMakespan := max o.curMakespan x.end_, rewards := o.rewards ++ [o.curMakespan - max o.curMakespan x.end_] }
  | .idleReward =>
    { o with rewards := o.rewards ++ [-(match ((s.sched.getD x.machine []).dropLast).getLast? with
        | some l => x.start - l.end_ | none => x.start)] }
  | .residual => { o with graph := residualUpdate c s heap o }

theorem callUpdate_none {id : Nat} (x : SOp) (h : w.heap[id]? = none) : w.callUpdate x id = w := by
  unfold FWorld.callUpdate; rw [h]

theorem callUpdate_eq (w : FWorld) (x : SOp) (id : Nat) (o : FObs) (ho : w.heap[id]? = some o) :
    w.callUpdate x id = w.setObs id (updObs w.cfg w.s x w.heap o) := by
  unfold FWorld.callUpdate updObs
  simp only [ho]
  cases hk : o.kind <;> rfl

theorem frame_remainingUpdate (x : SOp) (o : FObs) : (remainingUpdate x o).frame = o.frame := by
  unfold remainingUpdate
  dsimp only
  refine (frame_ite ?_).trans (frame_ite ?_) <;> rfl

theorem frame_isCompletedUpdate (c : Cfg) (s : State) (x : SOp) (o : FObs) : (isCompletedUpdate c s x o).frame = o.frame := by
  unfold isCompletedUpdate
  dsimp only
  refine (frame_ite ?_).trans ((frame_ite ?_).trans (frame_ite ?_)) <;> rfl

theorem frame_positionUpdate (c : Cfg) (x : SOp) (o : FObs) : (positionUpdate c x o).frame = o.frame := by
  unfold positionUpdate; split <;> rfl

theorem updObs_kind (c : Cfg) (s : State) (x : SOp) (hp : List FObs) (o : FObs) : (updObs c s x hp o).kind = o.kind := by
  unfold updObs
  split
  · exact kind_of_frame (frame_isReadyFeatures c s o)
  · exact kind_of_frame (frame_estFeatures c s _)
  · exact kind_of_frame (frame_assignCols o _)
  · exact kind_of_frame (frame_assignCols o _)
  · exact kind_of_frame (frame_positionUpdate c x o)
  · exact kind_of_frame (frame_remainingUpdate x o)
  · exact kind_of_frame (frame_isCompletedUpdate c s x o)
  all_goals rfl

theorem callUpdate_other (w : FWorld) (x : SOp) {id k : Nat} (h : id ≠ k) :
    (w.callUpdate x id).heap[k]? = w.heap[k]? := by
  cases ho : w.heap[id]? with
  | none => rw [callUpdate_none x ho]
  | some o => rw [callUpdate_eq w x id o ho]; exact setObs_heap_ne w h _

theorem callUpdate_shell (w : FWorld) (x : SOp) (id : Nat) :
    (w.callUpdate x id).subs = w.subs ∧ (w.callUpdate x id).s = w.s ∧ (w.callUpdate x id).cfg = w.cfg ∧
    (w.callUpdate x id).heap.length = w.heap.length := by
  cases ho : w.heap[id]? with
  | none => rw [callUpdate_none x ho]; exact ⟨rfl, rfl, rfl, rfl⟩
  | some o => rw [callUpdate_eq w x id o ho]; exact ⟨rfl, rfl, rfl, List.length_set⟩

/-- the notification loop over a duplicate-free subscriber list: subscribers, state, configuration and heap size stay, observers
outside the list are untouched, every observer in the list is rewritten exactly once, by `updObs` (`hp`: the heap it read) -/
theorem fold_callUpdate_at (x : SOp) : ∀ (l : List Nat) (w : FWorld), l.Nodup →
    (l.foldl (fun w i => w.callUpdate x i) w).subs = w.subs ∧
    (l.foldl (fun w i => w.callUpdate x i) w).s = w.s ∧
    (l.foldl (fun w i => w.callUpdate x i) w).cfg = w.cfg ∧
    (l.foldl (fun w i => w.callUpdate x i) w).heap.length = w.heap.length ∧
    (∀ k, k ∉ l → (l.foldl (fun w i => w.callUpdate x i) w).heap[k]? = w.heap[k]?) ∧
    (∀ id ∈ l, ∀ o, w.heap[id]? = some o →
      ∃ hp, (l.foldl (fun w i => w.callUpdate x i) w).heap[id]? = some (updObs w.cfg w.s x hp o))
  | [], w, _ => ⟨rfl, rfl, rfl, rfl, fun _ _ => rfl, fun _ h => by cases h⟩
  | a :: t, w, hnd => by
    simp only [List.foldl_cons]
    rw [List.nodup_cons] at hnd
    obtain ⟨i1, i2, i3, i4, i5, i6⟩ := fold_callUpdate_at x t (w.callUpdate x a) hnd.2
    obtain ⟨f1, f2, f3, f4⟩ := callUpdate_shell w x a
    refine ⟨i1.trans f1, i2.trans f2, i3.trans f3, i4.trans f4, ?_, ?_⟩
    · intro k hk
      rw [i5 k (fun h => hk (by simp [h])), callUpdate_other w x (fun h => hk (by simp [h]))]
    · intro id hid o ho
      by_cases ha : a = id
      · subst ha
        refine ⟨w.heap, ?_⟩
        rw [i5 a hnd.1, callUpdate_eq w x a o ho]
        have hlt : a < w.heap.length := (List.getElem?_eq_some_iff.1 ho).1
        simp [FWorld.setObs, hlt]
      · have hmem : id ∈ t := by
          rcases List.mem_cons.1 hid with h | h
          · exact absurd h.symm ha
          · exact h
        have ho2 : (w.callUpdate x a).heap[id]? = some o := by
          rw [callUpdate_other w x ha]; exact ho
        obtain ⟨hp, hhp⟩ := i6 id hmem o ho2
        rw [f3, f2] at hhp
        exact ⟨hp, hhp⟩

theorem dispatch_shell (w : FWorld) (j p : Nat) (m : Option Int) :
    (w.dispatch j p m).1.subs = w.subs ∧ (w.dispatch j p m).1.heap.length = w.heap.length ∧
    (w.dispatch j p m).1.cfg = w.cfg := by
  have fold : ∀ (x : SOp) (l : List Nat) (w : FWorld), (l.foldl (fun w i => w.callUpdate x i) w).subs = w.subs ∧
      (l.foldl (fun w i => w.callUpdate x i) w).heap.length = w.heap.length ∧
      (l.foldl (fun w i => w.callUpdate x i) w).cfg = w.cfg := by
    intro x l
    induction l with
    | nil => exact fun _ => ⟨rfl, rfl, rfl⟩
    | cons a t ih =>
      intro w
      obtain ⟨h1, _, h3, h4⟩ := callUpdate_shell w x a
      obtain ⟨i1, i2, i3⟩ := ih (w.callUpdate x a)
      exact ⟨i1.trans h1, i2.trans h4, i3.trans h3⟩
  unfold FWorld.dispatch
  split
  · exact ⟨rfl, rfl, rfl⟩
  · split
    · exact ⟨rfl, rfl, rfl⟩
    · exact fold _ _ _

end JS
