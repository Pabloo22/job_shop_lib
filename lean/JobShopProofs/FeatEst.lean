import JobShopProofs.FeatureSpecs
/-!
# EarliestStartTimeObserver: the matrix and the columns agree with the from-scratch specification

`estRow`/`estCompute` (the model of `_compute_earliest_start_times`) establish `EstOK`, whatever the old matrix
held; the constructor's cumulative durations are the specification in the initial state; the three columns
written by `initialize_features` are the specification minus the current time.
-/
namespace JS

private theorem drop_zipIdx' {α} : ∀ (l : List α) (k n : Nat), (l.zipIdx k).drop n = (l.drop n).zipIdx (k + n)
  | [], k, n => by simp
  | a :: t, k, 0 => by simp
  | a :: t, k, n + 1 => by
    simp only [List.zipIdx_cons, List.drop_succ_cons]
    rw [drop_zipIdx' t (k + 1) n]
    congr 1; omega

private theorem flatMap_congr' {α β} (f g : α → List β) : ∀ (l : List α), (∀ a ∈ l, f a = g a) → l.flatMap f = l.flatMap g
  | [], _ => rfl
  | a :: t, h => by
    simp only [List.flatMap_cons]
    rw [h a (by simp), flatMap_congr' f g t (fun b hb => h b (by simp [hb]))]

private theorem filter_range_not_lt (k : Nat) : ∀ n,
    (List.range n).filter (fun p => !decide (p < k)) = (List.range n).drop k
  | 0 => by simp
  | n + 1 => by
    rw [List.range_succ, List.filter_append, filter_range_not_lt k n]
    by_cases h : n < k
    · have h1 : (List.range n).drop k = [] := by
        apply List.drop_eq_nil_of_le; simp; omega
      have h2 : (List.range n ++ [n]).drop k = [] := by
        apply List.drop_eq_nil_of_le; simp; omega
      rw [h1, h2]; simp [h]
    · rw [List.drop_append_of_le_length (by simp; omega)]
      simp [h]

theorem filter_allOps_unscheduled (I : Instance) (s : State) :
    (allOps I).filter (fun r => !isScheduled s r) = unscheduledPure I s := by
  unfold allOps unscheduledPure
  rw [List.filter_flatMap]
  apply flatMap_congr'
  intro j _
  rw [List.filter_map]
  simp only
  congr 1
  exact filter_range_not_lt (s.jobIdx.getD j 0) _

theorem mem_unsched_iff {I : Instance} {s : State} {r : OpRef} :
    r ∈ unscheduledPure I s ↔ r.1 < I.length ∧ s.jobIdx.getD r.1 0 ≤ r.2 ∧ r.2 < (I.getD r.1 []).length := by
  obtain ⟨j, p⟩ := r
  unfold unscheduledPure
  simp only [List.mem_flatMap, List.mem_range, List.mem_map, Prod.mk.injEq]
  constructor
  · rintro ⟨j', hj', p', hp', rfl, rfl⟩
    have hm := List.mem_of_mem_drop hp'
    simp only [List.mem_range] at hm
    refine ⟨hj', ?_, hm⟩
    obtain ⟨i, hi, hip⟩ := List.getElem_of_mem hp'
    simp only [List.getElem_drop, List.getElem_range] at hip
    omega
  · rintro ⟨hj, h1, h2⟩
    refine ⟨j, hj, p, ?_, rfl, rfl⟩
    rw [List.mem_iff_getElem]
    refine ⟨p - s.jobIdx.getD j 0, by rw [List.length_drop, List.length_range]; omega, ?_⟩
    simp only [List.getElem_drop, List.getElem_range]
    omega

/-- the step of the loop of `_compute_earliest_start_times` -/
def estStep (s : State) (acc : List Int × Int) (opi : Op × Nat) : List Int × Int :=
  (acc.1.set opi.2 (max acc.2 (((opi.1.machines.map fun m => s.machNext.getD m 0).min?).getD 0)),
   max acc.2 (((opi.1.machines.map fun m => s.machNext.getD m 0).min?).getD 0) + opi.1.dur)

theorem estRow_eq (s : State) (j : Nat) (job : List Op) (row : List Int) :
    estRow s j job row =
      (((job.drop (s.jobIdx.getD j 0)).zipIdx (s.jobIdx.getD j 0)).foldl (estStep s) (row, s.jobNext.getD j 0)).1 := by
  unfold estRow
  simp only
  rw [drop_zipIdx' job 0 (s.jobIdx.getD j 0), Nat.zero_add]
  rfl

theorem estChain_length (s : State) : ∀ (ops : List Op) (acc : Int), (estChain s ops acc).length = ops.length
  | [], _ => rfl
  | op :: rest, acc => by simp [estChain, estChain_length s rest]

theorem estFold_spec (s : State) : ∀ (ops : List Op) (k : Nat) (row : List Int) (acc : Int),
    k + ops.length ≤ row.length →
    ((ops.zipIdx k).foldl (estStep s) (row, acc)).1.length = row.length ∧
    (∀ p, p < k → ((ops.zipIdx k).foldl (estStep s) (row, acc)).1.getD p 0 = row.getD p 0) ∧
    (∀ p, k ≤ p → p < k + ops.length →
      ((ops.zipIdx k).foldl (estStep s) (row, acc)).1.getD p 0 = (estChain s ops acc).getD (p - k) 0)
  | [], k, row, acc, _ => by
    refine ⟨rfl, fun _ _ => rfl, ?_⟩
    intro p h1 h2; simp at h2; omega
  | op :: rest, k, row, acc, hlen => by
    rw [List.length_cons] at hlen
    rw [List.zipIdx_cons, List.foldl_cons]
    -- one step writes the start `v` of `op` at `k` and goes on with `v + op.dur`, as `estChain` does
    generalize hv : max acc (((op.machines.map fun m => s.machNext.getD m 0).min?).getD 0) = v
    have hstep : estStep s (row, acc) (op, k) = (row.set k v, v + op.dur) := by rw [← hv]; rfl
    have hchain : estChain s (op :: rest) acc = v :: estChain s rest (v + op.dur) := by rw [← hv]; rfl
    rw [hstep, hchain]
    obtain ⟨ih1, ih2, ih3⟩ := estFold_spec s rest (k + 1) (row.set k v) (v + op.dur) (by rw [List.length_set]; omega)
    refine ⟨ih1.trans List.length_set, fun p hp => ?_, fun p h1 h2 => ?_⟩
    · rw [ih2 p (by omega), getD_set_eq _ _ _ _ (by omega), if_neg (by omega)]
    · rw [List.length_cons] at h2
      by_cases hpk : p = k
      · rw [ih2 p (by omega), getD_set_eq _ _ _ _ (by omega), if_pos hpk, hpk, Nat.sub_self]
        rfl
      · rw [ih3 p (by omega) (by omega), show p - k = (p - (k + 1)) + 1 by omega]
        rfl

theorem estRow_spec (s : State) (j : Nat) (job : List Op) (row : List Int) (hlen : row.length = job.length) :
    (estRow s j job row).length = job.length ∧
    ∀ p, s.jobIdx.getD j 0 ≤ p → p < job.length →
      (estRow s j job row).getD p 0 =
        (estChain s (job.drop (s.jobIdx.getD j 0)) (s.jobNext.getD j 0)).getD (p - s.jobIdx.getD j 0) 0 := by
  rw [estRow_eq]
  by_cases hn : s.jobIdx.getD j 0 ≤ job.length
  · obtain ⟨h1, _, h3⟩ := estFold_spec s (job.drop (s.jobIdx.getD j 0)) (s.jobIdx.getD j 0) row (s.jobNext.getD j 0)
      (by rw [List.length_drop]; omega)
    refine ⟨by rw [h1, hlen], ?_⟩
    intro p hp1 hp2
    exact h3 p hp1 (by rw [List.length_drop]; omega)
  · have : job.drop (s.jobIdx.getD j 0) = [] := List.drop_eq_nil_of_le (by omega)
    rw [this]
    refine ⟨by simpa using hlen, ?_⟩
    intro p hp1 hp2; omega

/-- cumulative durations -/
def cumDur : List Op → Int → List Int
  | [], _ => []
  | op :: rest, acc => acc :: cumDur rest (acc + op.dur)

theorem cumDur_length : ∀ (ops : List Op) (acc : Int), (cumDur ops acc).length = ops.length
  | [], _ => rfl
  | op :: rest, acc => by simp [cumDur, cumDur_length rest]

theorem estInitial_fold : ∀ (job : List Op) (l : List Int) (a : Int),
    (job.foldl (fun (acc : List Int × Int) op => (acc.1 ++ [acc.2], acc.2 + op.dur)) (l, a)).1 = l ++ cumDur job a
  | [], l, a => by simp [cumDur]
  | op :: rest, l, a => by
    simp only [List.foldl_cons]
    rw [estInitial_fold rest]
    simp [cumDur]

theorem estInitial_eq (I : Instance) : estInitial I = I.map fun job => cumDur job 0 := by
  unfold estInitial
  apply List.map_congr_left
  intro job _
  rw [estInitial_fold]; simp

theorem estInitial_getD (I : Instance) (j : Nat) : (estInitial I).getD j [] = cumDur (I.getD j []) 0 := by
  rw [estInitial_eq]
  simp only [List.getD_eq_getElem?_getD, List.getElem?_map]
  cases I[j]? <;> simp [cumDur]

theorem estInitial_shape (I : Instance) :
    (estInitial I).length = I.length ∧ ∀ j, ((estInitial I).getD j []).length = (I.getD j []).length := by
  refine ⟨by simp [estInitial], ?_⟩
  intro j
  rw [estInitial_getD, cumDur_length]

private theorem init_machNext_getD (I : Instance) (m : Nat) : (init I).machNext.getD m 0 = 0 :=
  getD_replicate_self _ m 0

private theorem init_jobNext_getD (I : Instance) (j : Nat) : (init I).jobNext.getD j 0 = 0 :=
  getD_replicate_self _ j 0

private theorem min?_zeros_getD : ∀ (n : Nat), ((List.replicate n (0 : Int)).min?).getD 0 = 0 := by
  intro n
  rw [List.min?_replicate]
  split <;> rfl

/-- in the initial state every machine is free at 0: a chain that starts at a non-negative time is the
cumulative durations -/
theorem estChain_init (I : Instance) : ∀ (ops : List Op) (acc : Int), 0 ≤ acc → (∀ op ∈ ops, 0 ≤ op.dur) →
    estChain (init I) ops acc = cumDur ops acc
  | [], _, _, _ => rfl
  | op :: rest, acc, hacc, hd => by
    have hz : (op.machines.map fun m => (init I).machNext.getD m 0) = List.replicate op.machines.length 0 := by
      rw [List.eq_replicate_iff]
      refine ⟨by simp, ?_⟩
      intro b hb
      obtain ⟨m, _, rfl⟩ := List.mem_map.1 hb
      exact init_machNext_getD I m
    have hst : max acc (((op.machines.map fun m => (init I).machNext.getD m 0).min?).getD 0) = acc := by
      rw [hz, min?_zeros_getD]; omega
    simp only [estChain, cumDur, hst]
    have h0 : 0 ≤ op.dur := hd op (by simp)
    rw [estChain_init I rest (acc + op.dur) (by omega) (fun o ho => hd o (by simp [ho]))]

private theorem valid_job_dur {I : Instance} (hv : Valid I) (j : Nat) : ∀ op ∈ I.getD j [], 0 ≤ op.dur := by
  intro op hop
  rw [List.getD_eq_getElem?_getD] at hop
  cases hI : I[j]? with
  | none => rw [hI] at hop; cases hop
  | some job =>
    rw [hI] at hop
    obtain ⟨p, hp⟩ := List.getElem?_of_mem hop
    exact (hv j p op (getOp_eq_some_iff.2 ⟨job, hI, hp⟩)).2.2

theorem estCompute_length (I : Instance) (s : State) (est : List (List Int)) : (estCompute I s est).length = I.length := by
  simp [estCompute]

theorem estCompute_getD (I : Instance) (s : State) (est : List (List Int)) (j : Nat) (hj : j < I.length) :
    (estCompute I s est).getD j [] = estRow s j (I.getD j []) (est.getD j []) := by
  unfold estCompute
  simp only [List.getD_eq_getElem?_getD, List.getElem?_map, List.getElem?_zipIdx, List.getElem?_eq_getElem hj,
    Option.map_some, Option.getD_some, Nat.zero_add]

theorem estCompute_getD_ge (I : Instance) (s : State) (est : List (List Int)) (j : Nat) (hj : ¬ j < I.length) :
    (estCompute I s est).getD j [] = [] := by
  simp [List.getD_eq_getElem?_getD, estCompute_length, Nat.le_of_not_lt hj]

theorem estCompute_spec (I : Instance) (s : State) (est : List (List Int))
    (hshape : est.length = I.length ∧ ∀ j, (est.getD j []).length = (I.getD j []).length) :
    EstOK I s (estCompute I s est) := by
  refine ⟨estCompute_length I s est, ?_, ?_⟩
  · intro j
    by_cases hj : j < I.length
    · rw [estCompute_getD I s est j hj]
      exact (estRow_spec s j _ _ (hshape.2 j)).1
    · rw [estCompute_getD_ge I s est j hj]
      simp [List.getD_eq_getElem?_getD, List.getElem?_eq_none (Nat.le_of_not_lt hj)]
  · intro r hr
    obtain ⟨hj, h1, h2⟩ := mem_unsched_iff.1 hr
    unfold estAt estSpec
    rw [estCompute_getD I s est r.1 hj]
    exact (estRow_spec s r.1 _ _ (hshape.2 r.1)).2 r.2 h1 h2

theorem estInitial_spec (I : Instance) (hv : Valid I) : EstOK I (init I) (estInitial I) := by
  obtain ⟨h1, h2⟩ := estInitial_shape I
  refine ⟨h1, h2, ?_⟩
  intro r _
  unfold estAt estSpec
  simp only [init_jobIdx_getD, init_jobNext_getD, List.drop_zero, Nat.sub_zero]
  rw [estInitial_getD, estChain_init I _ 0 (Int.le_refl 0) (valid_job_dur hv r.1)]

theorem estCompute_init (I : Instance) (hv : Valid I) (est : List (List Int))
    (hshape : est.length = I.length ∧ ∀ j, (est.getD j []).length = (I.getD j []).length) :
    estCompute I (init I) est = estInitial I := by
  have hsh := estInitial_shape I
  apply List.ext_getElem
  · rw [estCompute_length, hsh.1]
  · intro j hj1 hj2
    rw [List.getElem_eq_getD (h := hj1) [], List.getElem_eq_getD (h := hj2) []]
    rw [estCompute_length] at hj1
    rw [estCompute_getD I _ est j hj1]
    obtain ⟨hl, hval⟩ := estRow_spec (init I) j (I.getD j []) (est.getD j []) (hshape.2 j)
    apply List.ext_getElem
    · rw [hl, hsh.2 j]
    · intro p hp1 hp2
      rw [List.getElem_eq_getD (h := hp1) 0, List.getElem_eq_getD (h := hp2) 0]
      rw [hl] at hp1
      have hc := hval p (by rw [init_jobIdx_getD]; omega) hp1
      simp only [init_jobIdx_getD, init_jobNext_getD, List.drop_zero, Nat.sub_zero] at hc
      rw [estChain_init I _ 0 (Int.le_refl 0) (valid_job_dur hv j), ← estInitial_getD] at hc
      exact hc

theorem estCol_ops (c : Cfg) (s : State) (o : FObs) (hok : EstOK c.I s o.est) :
    ∀ r ∈ unscheduledPure c.I s,
      (estCol c s o .operations).getD (opId c.I r) 0 = estSpec c.I s r - currentTimePure c s := by
  intro r hr
  have hmem := mem_allOps_of_unscheduled hr
  have hg := allOps_getElem_opId hmem
  simp only [estCol, List.getD_eq_getElem?_getD, List.getElem?_map, hg, Option.map_some, Option.getD_some]
  rw [hok.2.2 r hr]

theorem estCol_jobs (c : Cfg) (s : State) (o : FObs) (hok : EstOK c.I s o.est) :
    ∀ j, j < c.I.length → s.jobIdx.getD j 0 < (c.I.getD j []).length →
      (estCol c s o .jobs).getD j 0 = estSpec c.I s (j, s.jobIdx.getD j 0) - currentTimePure c s := by
  intro j hj hlt
  have hne : (s.jobIdx.getD j 0 == (c.I.getD j []).length) = false := by
    simp only [beq_eq_false_iff_ne, ne_eq]; omega
  have hr : (j, s.jobIdx.getD j 0) ∈ unscheduledPure c.I s :=
    mem_unsched_iff.2 ⟨hj, Nat.le_refl _, hlt⟩
  simp only [estCol]
  rw [getD_map_range _ _ _ _ hj]
  simp only [hne, Bool.false_eq_true, ↓reduceIte]
  rw [hok.2.2 _ hr]

theorem estCol_machines (c : Cfg) (s : State) (o : FObs) (hok : EstOK c.I s o.est) :
    ∀ m, m < numMachines c.I →
      (estCol c s o .machines).getD m 0 =
        ((((unscheduledPure c.I s).filter (onMachine c.I m)).map (estSpec c.I s)).min?).getD 0 - currentTimePure c s := by
  intro m hm
  have hcand : ∀ f : OpRef → Bool, (∀ r, f r = (!isScheduled s r && onMachine c.I m r)) →
      (allOps c.I).filter f = (unscheduledPure c.I s).filter (onMachine c.I m) := by
    intro f hf
    rw [← filter_allOps_unscheduled, List.filter_filter]
    apply List.filter_congr
    intro r _
    rw [hf r, Bool.and_comm]
  have hmap : ((unscheduledPure c.I s).filter (onMachine c.I m)).map (estAt o.est) =
      ((unscheduledPure c.I s).filter (onMachine c.I m)).map (estSpec c.I s) := by
    apply List.map_congr_left
    intro r hr
    exact hok.2.2 r (List.mem_filter.1 hr).1
  simp only [estCol]
  rw [getD_map_range _ _ _ _ hm, ← hmap]
  exact congrArg (fun l => ((List.map (estAt o.est) l).min?).getD 0 - currentTimePure c s) (hcand _ (fun r => rfl))

end JS
