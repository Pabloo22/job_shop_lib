import JobShopProofs.Lemmas.MinStart
import JobShopProofs.Reach
/-!
# Facts about the four built-in ready-operation filters
-/
namespace JS

/-- the zero-duration test of the loop -/
def zeroDur (I : Instance) (r : OpRef) : Bool :=
  match getOp I r.1 r.2 with | some op => op.dur == 0 | none => false

/-- the keep-test of the loop: starts on some eligible machine before the earliest completion there -/
def critDom (I : Instance) (st : Nat → Nat → Int) (me : Nat → Option Int) (r : OpRef) : Bool :=
  match getOp I r.1 r.2 with
  | some op => op.machines.any (fun m => ltOpt (st r.1 m) (me m))
  | none => false

/-- The loop of `filter_dominated_operations`, in closed form: if the list contains a zero-duration
operation the result is the first such operation alone; otherwise it is the filter by `critDom`. -/
theorem domLoop_eq (I : Instance) (st : Nat → Nat → Int) (me : Nat → Option Int) :
    ∀ (rest acc : List OpRef), domLoop I st me rest acc =
      match rest.find? (zeroDur I) with
      | some r => [r]
      | none => acc.reverse ++ rest.filter (critDom I st me)
  | [], acc => by rw [domLoop, List.find?_nil, List.filter_nil, List.append_nil]
  | r :: rest, acc => by
    have ih := domLoop_eq I st me rest
    rw [domLoop, List.find?_cons, List.filter_cons, zeroDur, critDom]
    cases hop : getOp I r.1 r.2 with
    | none => exact ih acc
    | some op =>
      simp only
      cases hd : op.dur == 0 with
      | true => rfl
      | false =>
        simp only [Bool.false_eq_true, if_false]
        by_cases hk : op.machines.any (fun m => ltOpt (st r.1 m) (me m)) = true
        · rw [if_pos hk, if_pos hk, ih (r :: acc), List.reverse_cons, List.append_assoc, List.singleton_append]
        · rw [if_neg hk, if_neg hk, ih acc]

theorem filterDominated_eq (I : Instance) (s : State) (L : List OpRef) :
    filterDominated I s L =
      match L.find? (zeroDur I) with
      | some r => [r]
      | none => L.filter (critDom I (startTime s) (minEnd I s L)) := by
  unfold filterDominated
  rw [domLoop_eq]; simp

theorem C07_sublist_single (I : Instance) (s : State) (f : FilterKind) (L : List OpRef) :
    (applyFilter I s f L).Sublist L := by
  cases f with
  | dominated =>
    rw [applyFilter, filterDominated_eq]
    split
    · exact List.singleton_sublist.2 (List.mem_of_find?_eq_some ‹_›)
    · exact List.filter_sublist
  | nonImmediateMachines => exact List.filter_sublist
  | nonIdleMachines => exact List.filter_sublist
  | nonImmediateOps => exact List.filter_sublist

/-- **C07 (sub-list).** Every filter and every composition returns a sub-list of its input: same
order, nothing foreign, no new duplicates — in *any* state. -/
theorem C07_sublist (I : Instance) (s : State) (fs : List FilterKind) (L : List OpRef) :
    (applyFilters I s fs L).Sublist L := by
  induction fs generalizing L with
  | nil => exact List.Sublist.refl L
  | cons f fs ih => exact (ih (applyFilter I s f L)).trans (C07_sublist_single I s f L)

theorem availablePure_sublist (c : Cfg) (s : State) : (availablePure c s).Sublist (rawReady c.I s) := by
  unfold availablePure applyCfg
  cases c.F with
  | none => exact List.Sublist.refl _
  | some fs => exact C07_sublist _ _ fs _

theorem RefsOK.sublist {I : Instance} {L L' : List OpRef} (h : RefsOK I L) (hs : L'.Sublist L) : RefsOK I L' :=
  fun r hr => h r (hs.subset hr)

theorem ltOpt_min? (a : Int) (l : List Int) : ltOpt a l.min? = true ↔ ∀ v ∈ l, a < v := by
  cases hm : l.min? with
  | none =>
    rw [List.min?_eq_none_iff.1 hm]
    exact ⟨fun _ _ h => (nomatch h), fun _ => rfl⟩
  | some b =>
    obtain ⟨hb, hle⟩ := List.min?_eq_some_iff.1 hm
    simp only [ltOpt, decide_eq_true_eq]
    exact ⟨fun h v hv => Int.lt_of_lt_of_le h (hle v hv), fun h => h b hb⟩

/-- meaning of `start < min_machine_end_times[m]` -/
theorem ltOpt_minEnd (I : Instance) (s : State) (L : List OpRef) (m : Nat) (a : Int) :
    ltOpt a (minEnd I s L m) = true ↔
      ∀ r ∈ L, ∀ op, getOp I r.1 r.2 = some op → m ∈ op.machines → a < startTime s r.1 m + op.dur := by
  rw [minEnd, ltOpt_min?]
  constructor
  · intro h r hr op hop hm
    exact h _ (List.mem_filterMap.2 ⟨r, hr, by simp only [hop, hm, if_true]⟩)
  · intro h v hv
    obtain ⟨r, hr, hv⟩ := List.mem_filterMap.1 hv
    cases hop : getOp I r.1 r.2 with
    | none => simp only [hop, reduceCtorEq] at hv
    | some op =>
      by_cases hm : m ∈ op.machines
      · simp only [hop, hm, if_true, Option.some.injEq] at hv
        exact hv ▸ h r hr op hop hm
      · simp only [hop, hm, if_false, reduceCtorEq] at hv

/-- the documented criterion of the dominated filter, for one operation -/
def NotDominated (I : Instance) (s : State) (L : List OpRef) (r : OpRef) : Prop :=
  ∃ op, getOp I r.1 r.2 = some op ∧ ∃ m ∈ op.machines,
    ∀ r' ∈ L, ∀ op', getOp I r'.1 r'.2 = some op' → m ∈ op'.machines →
      startTime s r.1 m < startTime s r'.1 m + op'.dur

theorem critDom_iff (I : Instance) (s : State) (L : List OpRef) (r : OpRef) :
    critDom I (startTime s) (minEnd I s L) r = true ↔ NotDominated I s L r := by
  rw [critDom, NotDominated]
  cases hop : getOp I r.1 r.2 with
  | none => exact ⟨fun h => (nomatch h), fun ⟨_, h, _⟩ => (nomatch h)⟩
  | some op =>
    simp only [List.any_eq_true, ltOpt_minEnd]
    exact ⟨fun ⟨m, hm, h⟩ => ⟨op, rfl, m, hm, h⟩, fun ⟨_, e, m, hm, h⟩ => Option.some.inj e ▸ ⟨m, hm, h⟩⟩

theorem mem_takeWhile_desc (t : Int) (r : List SOp) (hp : r.Pairwise (fun a b => b.end_ ≤ a.start))
    (hd : ∀ x ∈ r, 0 ≤ x.dur) (x : SOp) : x ∈ r.takeWhile (fun x => !decide (x.end_ ≤ t)) ↔ x ∈ r ∧ t < x.end_ := by
  induction hp with
  | nil => exact ⟨fun h => (nomatch h), fun h => (nomatch h.1)⟩
  | @cons a r har _ ih =>
    have ih := ih (fun y hy => hd y (List.mem_cons_of_mem _ hy))
    by_cases ha : a.end_ ≤ t
    · -- the scan stops at `a`; everything behind `a` ends no later than `a` starts
      rw [List.takeWhile_cons_of_neg (by rw [decide_eq_true ha]; exact Bool.false_ne_true)]
      refine ⟨fun h => (nomatch h), fun ⟨hx, ht⟩ => absurd ht (Int.not_lt.2 ?_)⟩
      rcases List.mem_cons.1 hx with rfl | hx
      · exact ha
      · exact Int.le_trans (har x hx) (Int.le_trans (Int.le_add_of_nonneg_right (hd a List.mem_cons_self)) ha)
    · rw [List.takeWhile_cons_of_pos (by rw [decide_eq_false ha]; rfl), List.mem_cons, List.mem_cons, ih]
      exact ⟨fun h => h.elim (fun e => ⟨.inl e, e ▸ Int.not_le.1 ha⟩) (fun h => ⟨.inr h.1, h.2⟩),
        fun ⟨h, ht⟩ => h.imp id (fun h => ⟨h, ht⟩)⟩

theorem cinv_end_le_machNext {I : Instance} {s : State} (h : CInv I s) (m : Nat) :
    ∀ x ∈ s.sched.getD m [], x.end_ ≤ s.machNext.getD m 0 := by
  obtain ⟨a, hr, ha, _⟩ := h.abs
  intro x hx
  have := ha.mN_ge x (hr.sched.mem_iff.2 (mem_getD_flatten _ _ _ hx))
  rw [h.inList m x hx, hr.mN] at this
  exact this

/-- The operations still running at `t` are the scheduled operations that end after `t`: the backwards scan
with `break` loses nothing because each machine's list is in time order. -/
theorem cinv_mem_ongoingAt {I : Instance} {s : State} (h : CInv I s) (t : Int) (x : SOp) :
    x ∈ ongoingAt s t ↔ x ∈ s.sched.flatten ∧ t < x.end_ := by
  have key : ∀ ms ∈ s.sched, (x ∈ ms.reverse.takeWhile (fun x => !decide (x.end_ ≤ t)) ↔ x ∈ ms ∧ t < x.end_) := by
    intro ms hms
    obtain ⟨m, hm, rfl⟩ := List.mem_iff_getElem.1 hms
    have hord := h.ordered m
    rw [List.getD_eq_getElem?_getD, List.getElem?_eq_getElem hm, Option.getD_some] at hord
    rw [mem_takeWhile_desc t _ (List.pairwise_reverse.2 hord) (fun y hy =>
      cinv_dur_nonneg h y (List.mem_flatten.2 ⟨_, hms, List.mem_reverse.1 hy⟩)), List.mem_reverse]
  simp only [ongoingAt, List.mem_flatMap, List.mem_flatten]
  constructor
  · rintro ⟨ms, hms, hx⟩
    exact ⟨⟨ms, hms, ((key ms hms).1 hx).1⟩, ((key ms hms).1 hx).2⟩
  · rintro ⟨⟨ms, hms, hx⟩, ht⟩
    exact ⟨ms, hms, (key ms hms).2 ⟨hx, ht⟩⟩

theorem nonIdleMachines_eq (s : State) (t : Int) : nonIdleMachines s t = (ongoingAt s t).map (·.machine) := by
  simp only [nonIdleMachines, ongoingAt, List.map_flatMap]

theorem mem_nonIdleMachines {I : Instance} {s : State} (h : CInv I s) (t : Int) (m : Nat) :
    m ∈ nonIdleMachines s t ↔ ∃ x ∈ s.sched.getD m [], t < x.end_ := by
  simp only [nonIdleMachines_eq, List.mem_map, cinv_mem_ongoingAt h]
  constructor
  · rintro ⟨x, ⟨hx, ht⟩, rfl⟩
    obtain ⟨k, hk⟩ := mem_flatten_getD _ x hx
    exact ⟨x, h.inList k x hk ▸ hk, ht⟩
  · rintro ⟨x, hx, ht⟩
    exact ⟨x, ⟨mem_getD_flatten _ _ _ hx, ht⟩, h.inList m x hx⟩

theorem mem_filterNonIdle {I : Instance} {s : State} (hc : CInv I s) (L : List OpRef) (r : OpRef) :
    r ∈ filterNonIdle I s L ↔
      r ∈ L ∧ ∃ op, getOp I r.1 r.2 = some op ∧ ∃ m ∈ op.machines,
        ∀ x ∈ s.sched.getD m [], x.end_ ≤ minStart I s L := by
  unfold filterNonIdle
  cases hop : getOp I r.1 r.2 with
  | none => simp [hop]
  | some op =>
    simp only [List.mem_filter, hop, Bool.not_eq_true', List.all_eq_false, List.contains_eq_mem, decide_eq_true_eq,
      mem_nonIdleMachines hc, not_exists, not_and, Int.not_lt, Option.some.injEq, exists_eq_left']

theorem mem_filterNonImmediateOps {I : Instance} {s : State} {L : List OpRef} (hok : RefsOK I L) (r : OpRef) :
    r ∈ filterNonImmediateOps I s L ↔
      r ∈ L ∧ ∃ op, getOp I r.1 r.2 = some op ∧ ∃ m ∈ op.machines, startTime s r.1 m = minStart I s L := by
  unfold filterNonImmediateOps
  simp only [List.mem_filter, beq_iff_eq]
  constructor
  · rintro ⟨hr, he⟩
    obtain ⟨op, hop, hne⟩ := hok r hr
    obtain ⟨⟨m, hm, hem⟩, _⟩ := earliestStart_spec I s r op hop hne
    exact ⟨hr, op, hop, m, hm, by rw [hem, he]⟩
  · rintro ⟨hr, op, hop, m, hm, he⟩
    obtain ⟨op', hop', hne⟩ := hok r hr
    rw [hop] at hop'; cases hop'
    obtain ⟨⟨m', hm', hem⟩, hle⟩ := earliestStart_spec I s r op hop hne
    have h1 := hle m hm
    have h2 := (minStart_spec I s L (List.ne_nil_of_mem hr) hok).2 r hr op hop m' hm'
    exact ⟨hr, by omega⟩

theorem mem_filterNonImmediateMachines (I : Instance) (s : State) (L : List OpRef) (r : OpRef) :
    r ∈ filterNonImmediateMachines I s L ↔
      r ∈ L ∧ ∃ op, getOp I r.1 r.2 = some op ∧ ∃ m ∈ op.machines,
        ∃ r' ∈ L, ∃ op', getOp I r'.1 r'.2 = some op' ∧ m ∈ op'.machines ∧ startTime s r'.1 m = minStart I s L := by
  unfold filterNonImmediateMachines immediateMachine
  simp only [List.mem_filter]
  constructor
  · rintro ⟨hr, h⟩
    cases hop : getOp I r.1 r.2 with
    | none => simp [hop] at h
    | some op =>
      simp only [hop, List.any_eq_true] at h
      obtain ⟨m, hm, r', hr', h'⟩ := h
      cases hop' : getOp I r'.1 r'.2 with
      | none => simp [hop'] at h'
      | some op' =>
        simp only [hop', Bool.and_eq_true, List.contains_eq_mem, decide_eq_true_eq, beq_iff_eq] at h'
        exact ⟨hr, op, rfl, m, hm, r', hr', op', hop', h'.1, h'.2⟩
  · rintro ⟨hr, op, hop, m, hm, r', hr', op', hop', hm', he⟩
    refine ⟨hr, ?_⟩
    simp only [hop, List.any_eq_true]
    exact ⟨m, hm, r', hr', by simp [hop', hm', he]⟩

/-- all operations of `L` have a positive duration -/
def PosDurL (I : Instance) (L : List OpRef) : Prop := ∀ r ∈ L, ∀ op, getOp I r.1 r.2 = some op → 0 < op.dur

theorem find?_zeroDur_none {I : Instance} {L : List OpRef} (hp : PosDurL I L) : L.find? (zeroDur I) = none := by
  rw [List.find?_eq_none]
  intro r hr
  unfold zeroDur
  cases hop : getOp I r.1 r.2 with
  | none => simp
  | some op => have := hp r hr op hop; simp; omega

/-- **Dominated operations**, positive durations: the filter keeps, in order, exactly the operations that
start on some eligible machine before the earliest completion on that machine among the list. -/
theorem C07_criterion_dominated (I : Instance) (s : State) (L : List OpRef) (hp : PosDurL I L) :
    filterDominated I s L = L.filter (critDom I (startTime s) (minEnd I s L)) ∧
    ∀ r, r ∈ filterDominated I s L ↔ r ∈ L ∧ NotDominated I s L r := by
  have h : filterDominated I s L = L.filter (critDom I (startTime s) (minEnd I s L)) := by
    rw [filterDominated_eq, find?_zeroDur_none hp]
  refine ⟨h, ?_⟩
  intro r
  rw [h, List.mem_filter, critDom_iff]

/-- `r` (with operation `op`) can start on its machine `m` at `min_start_time(L)` -/
structure AttainsMin (I : Instance) (s : State) (L : List OpRef) (r : OpRef) (op : Op) (m : Nat) : Prop where
  mem : r ∈ L
  hop : getOp I r.1 r.2 = some op
  hm : m ∈ op.machines
  eq : startTime s r.1 m = minStart I s L

theorem exists_attainsMin (I : Instance) (s : State) (L : List OpRef) (hL : L ≠ []) (hok : RefsOK I L) :
    ∃ r op m, AttainsMin I s L r op m := by
  obtain ⟨⟨r, hr, op, hop, m, hm, he⟩, _⟩ := minStart_spec I s L hL hok
  exact ⟨r, op, m, hr, hop, hm, he⟩

/-- Such an operation passes every filter (the dominated one when durations are positive): nothing on `m` can
still run at the minimum start time, and nothing on `m` can complete before it. -/
theorem applyFilter_keeps {I : Instance} {s : State} (hc : CInv I s) (f : FilterKind) {L : List OpRef}
    (hok : RefsOK I L) (hp : f = .dominated → PosDurL I L) {r : OpRef} {op : Op} {m : Nat}
    (ha : AttainsMin I s L r op m) : r ∈ applyFilter I s f L := by
  have hL : L ≠ [] := List.ne_nil_of_mem ha.mem
  have hmin := ha.eq
  cases f with
  | dominated =>
    refine ((C07_criterion_dominated I s L (hp rfl)).2 r).2 ⟨ha.mem, op, ha.hop, m, ha.hm, ?_⟩
    intro r' hr' op' hop' hm'
    have h1 := (minStart_spec I s L hL hok).2 r' hr' op' hop' m hm'
    have h2 := hp rfl r' hr' op' hop'
    omega
  | nonImmediateMachines =>
    exact (mem_filterNonImmediateMachines I s L r).2 ⟨ha.mem, op, ha.hop, m, ha.hm, r, ha.mem, op, ha.hop, ha.hm, hmin⟩
  | nonIdleMachines =>
    refine (mem_filterNonIdle hc L r).2 ⟨ha.mem, op, ha.hop, m, ha.hm, fun x hx => ?_⟩
    have h1 := cinv_end_le_machNext hc m x hx
    simp only [startTime] at hmin
    omega
  | nonImmediateOps => exact (mem_filterNonImmediateOps hok r).2 ⟨ha.mem, op, ha.hop, m, ha.hm, hmin⟩

theorem minStart_eq_of_keeps {I : Instance} {s : State} {L L' : List OpRef} (hL : L ≠ []) (hok : RefsOK I L)
    (hsub : L'.Sublist L) {r : OpRef} {op : Op} {m : Nat} (ha : AttainsMin I s L r op m) (hr : r ∈ L') :
    minStart I s L' = minStart I s L := by
  have hL' : L' ≠ [] := List.ne_nil_of_mem hr
  have hok' := hok.sublist hsub
  obtain ⟨⟨r2, hr2, op2, hop2, m2, hm2, he2⟩, hle'⟩ := minStart_spec I s L' hL' hok'
  have h1 := hle' r hr op ha.hop m ha.hm
  have h2 := (minStart_spec I s L hL hok).2 r2 (hsub.subset hr2) op2 hop2 m2 hm2
  have h3 := ha.eq
  omega

theorem applyFilter_nonempty {I : Instance} (hv : Valid I) {s : State} (hc : CInv I s) (f : FilterKind)
    {L : List OpRef} (hL : L ≠ []) (hok : RefsOK I L) : applyFilter I s f L ≠ [] := by
  obtain ⟨r, op, m, ha⟩ := exists_attainsMin I s L hL hok
  -- the dominated filter with a zero duration in the list returns that operation
  cases hf : L.find? (zeroDur I) with
  | some r0 =>
    by_cases hfd : f = .dominated
    · subst hfd
      rw [applyFilter, filterDominated_eq, hf]
      exact List.cons_ne_nil _ _
    · exact List.ne_nil_of_mem (applyFilter_keeps hc f hok (fun h => absurd h hfd) ha)
  | none =>
    refine List.ne_nil_of_mem (applyFilter_keeps hc f hok (fun _ r hr op hop => ?_) ha)
    have hz := List.find?_eq_none.1 hf r hr
    simp only [zeroDur, hop, beq_iff_eq] at hz
    have := (hv r.1 r.2 op hop).2.2
    omega

theorem applyFilters_nonempty {I : Instance} (hv : Valid I) {s : State} (hc : CInv I s) :
    ∀ (fs : List FilterKind) {L : List OpRef}, L ≠ [] → RefsOK I L → applyFilters I s fs L ≠ []
  | [], L, hL, _ => by simpa [applyFilters] using hL
  | f :: fs, L, hL, hok => by
    have h1 := applyFilter_nonempty hv hc f hL hok
    have h2 := applyFilters_nonempty hv hc fs h1 (hok.sublist (C07_sublist_single I s f L))
    simpa [applyFilters] using h2

theorem PosDurL.sublist {I : Instance} {L L' : List OpRef} (h : PosDurL I L) (hs : L'.Sublist L) : PosDurL I L' :=
  fun r hr => h r (hs.subset hr)

theorem applyFilter_minStart {I : Instance} {s : State} (hc : CInv I s) (f : FilterKind)
    {L : List OpRef} (hL : L ≠ []) (hok : RefsOK I L) (hp : PosDurL I L) :
    minStart I s (applyFilter I s f L) = minStart I s L := by
  obtain ⟨r, op, m, ha⟩ := exists_attainsMin I s L hL hok
  exact minStart_eq_of_keeps hL hok (C07_sublist_single I s f L) ha (applyFilter_keeps hc f hok (fun _ => hp) ha)

/-- **Filtering never changes the minimum start time** (positive durations; any composition). -/
theorem applyFilters_minStart {I : Instance} (hv : Valid I) {s : State} (hc : CInv I s) :
    ∀ (fs : List FilterKind) {L : List OpRef}, RefsOK I L → PosDurL I L →
      minStart I s (applyFilters I s fs L) = minStart I s L
  | [], L, _, _ => by simp [applyFilters]
  | f :: fs, L, hok, hp => by
    by_cases hL : L = []
    · subst hL
      have : applyFilters I s (f :: fs) [] = [] := by
        have := (C07_sublist I s (f :: fs) []); simpa using this
      rw [this]
    · have hsub := C07_sublist_single I s f L
      have h1 := applyFilter_minStart hc f hL hok hp
      have h2 := applyFilters_minStart hv hc fs (hok.sublist hsub) (hp.sublist hsub)
      simp only [applyFilters, List.foldl_cons] at h2 ⊢
      rw [h2, h1]

end JS
