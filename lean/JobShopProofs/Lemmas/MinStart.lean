import JobShopModel.Events
/-!
# `min_start_time`: the minimum is attained and is a lower bound
-/
namespace JS

theorem min?_spec (l : List Int) (h : l ≠ []) : ∃ m, l.min? = some m ∧ m ∈ l ∧ ∀ a ∈ l, m ≤ a := by
  cases hm : l.min? with
  | none => exact absurd (List.min?_eq_none_iff.1 hm) h
  | some m => exact ⟨m, rfl, List.min?_eq_some_iff.1 hm⟩

/-- the operations of `L` exist in the instance and have a machine -/
def RefsOK (I : Instance) (L : List OpRef) : Prop :=
  ∀ r ∈ L, ∃ op, getOp I r.1 r.2 = some op ∧ op.machines ≠ []

theorem mem_startsOf (I : Instance) (s : State) (L : List OpRef) (v : Int) :
    v ∈ startsOf I s L ↔ ∃ r ∈ L, ∃ op, getOp I r.1 r.2 = some op ∧ ∃ m ∈ op.machines, startTime s r.1 m = v := by
  unfold startsOf
  simp only [List.mem_flatMap]
  constructor
  · rintro ⟨r, hr, hv⟩
    cases hop : getOp I r.1 r.2 with
    | none => simp [hop] at hv
    | some op =>
      simp only [hop, List.mem_map] at hv
      obtain ⟨m, hm, rfl⟩ := hv
      exact ⟨r, hr, op, hop, m, hm, rfl⟩
  · rintro ⟨r, hr, op, hop, m, hm, rfl⟩
    exact ⟨r, hr, by simp only [hop, List.mem_map]; exact ⟨m, hm, rfl⟩⟩

theorem minStart_spec (I : Instance) (s : State) (L : List OpRef) (hL : L ≠ []) (hok : RefsOK I L) :
    (∃ r ∈ L, ∃ op, getOp I r.1 r.2 = some op ∧ ∃ m ∈ op.machines, startTime s r.1 m = minStart I s L) ∧
    (∀ r ∈ L, ∀ op, getOp I r.1 r.2 = some op → ∀ m ∈ op.machines, minStart I s L ≤ startTime s r.1 m) := by
  have hne : startsOf I s L ≠ [] := by
    cases L with
    | nil => exact absurd rfl hL
    | cons r t =>
      obtain ⟨op, hop, hm⟩ := hok r (by simp)
      obtain ⟨m, hm'⟩ := List.exists_mem_of_ne_nil _ hm
      exact List.ne_nil_of_mem ((mem_startsOf I s _ _).2 ⟨r, by simp, op, hop, m, hm', rfl⟩)
  obtain ⟨v, hv, hmem, hle⟩ := min?_spec _ hne
  have hms : minStart I s L = v := by
    cases L with
    | nil => exact absurd rfl hL
    | cons r t => simp [minStart, hv]
  rw [hms]
  refine ⟨(mem_startsOf I s L v).1 hmem, ?_⟩
  intro r hr op hop m hm
  exact hle _ ((mem_startsOf I s L _).2 ⟨r, hr, op, hop, m, hm, rfl⟩)

theorem minStart_nil (I : Instance) (s : State) : minStart I s [] = makespan s := rfl

theorem earliestStart_spec (I : Instance) (s : State) (r : OpRef) (op : Op) (hop : getOp I r.1 r.2 = some op)
    (hm : op.machines ≠ []) :
    (∃ m ∈ op.machines, startTime s r.1 m = earliestStart I s r) ∧
    (∀ m ∈ op.machines, earliestStart I s r ≤ startTime s r.1 m) := by
  have hne : (op.machines.map fun m => s.machNext.getD m 0) ≠ [] := by simpa using hm
  obtain ⟨v, hv, hmem, hle⟩ := min?_spec _ hne
  simp only [earliestStart, hop, hv, Option.getD_some, startTime]
  simp only [List.mem_map] at hmem
  obtain ⟨m, hmm, rfl⟩ := hmem
  refine ⟨⟨m, hmm, rfl⟩, ?_⟩
  intro m' hm'
  have := hle _ (List.mem_map.2 ⟨m', hm', rfl⟩)
  omega

end JS
