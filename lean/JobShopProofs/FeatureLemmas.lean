import JobShopModel.FeatureSpecs
import JobShopModel.Features
import JobShopProofs.Properties.C06
/-!
What the proofs about the feature observers share: the unscheduled operations of one job (`unschedJob`), which lose
exactly their head at an accepted dispatch, so that a per-job quantity changes only at the dispatched job; and what
`setCol` / `assignCols` do to the columns of a well-formed observer.
-/
namespace JS

def unschedJob (I : Instance) (s : State) (j : Nat) : List OpRef :=
  ((List.range (I.getD j []).length).drop (s.jobIdx.getD j 0)).map fun p => (j, p)

theorem flatMap_single {β} (f : Nat → List β) (j : Nat) : ∀ n,
    (List.range n).flatMap (fun j' => if j' = j then f j' else []) = if j < n then f j else []
  | 0 => by simp
  | n + 1 => by
    rw [List.range_succ, List.flatMap_append, flatMap_single f j n]
    simp only [List.flatMap_cons, List.flatMap_nil, List.append_nil]
    by_cases h1 : j < n
    · have : ¬ n = j := by omega
      simp [h1, this, Nat.lt_succ_of_lt h1]
    · by_cases h2 : n = j
      · subst h2; simp
      · have : ¬ j < n + 1 := by omega
        simp [h1, h2, this]

theorem filter_unscheduled_job (I : Instance) (s : State) (j : Nat) :
    (unscheduledPure I s).filter (fun r => r.1 == j) = if j < I.length then unschedJob I s j else [] := by
  unfold unscheduledPure
  rw [List.filter_flatMap]
  have : ∀ j', ((((List.range (I.getD j' []).length).drop (s.jobIdx.getD j' 0)).map fun p => (j', p)).filter
      fun r => r.1 == j) = if j' = j then unschedJob I s j' else [] := by
    intro j'
    rw [List.filter_map]
    by_cases h : j' = j
    · subst h
      simp only [↓reduceIte, unschedJob, Function.comp_def, beq_self_eq_true]
      rw [List.filter_eq_self.2 fun _ _ => rfl]
    · have hb : (j' == j) = false := beq_eq_false_iff_ne.2 h
      simp only [h, ↓reduceIte, Function.comp_def, hb]
      rw [List.filter_eq_nil_iff.2 fun _ _ => Bool.false_ne_true, List.map_nil]
  simp only [this]
  rw [flatMap_single (fun j' => unschedJob I s j') j I.length]

theorem unschedJob_dispatch {I : Instance} {s s' : State} {j p m : Nat} {op : Op} (hwf : WF I s)
    (hd : DispSpec I s s' j p m op) (j' : Nat) :
    (j' ≠ j → unschedJob I s' j' = unschedJob I s j') ∧
    unschedJob I s j = (j, p) :: unschedJob I s' j := by
  obtain ⟨_, hji, _⟩ := dispSpec_vectors hwf hd
  constructor
  · intro hne
    unfold unschedJob
    rw [hji]; simp [hne]
  · unfold unschedJob
    rw [hji]; simp only [↓reduceIte]
    rw [hd.hidx]
    have hlen : p < (I.getD j []).length := getD_length_of_getOp.1 (by simp [hd.hop])
    rw [List.drop_eq_getElem_cons (by simpa using hlen)]
    simp

theorem map_filter_unscheduled {α} (I : Instance) (s : State) (g : List OpRef → α) :
    ((List.range I.length).map fun j => g ((unscheduledPure I s).filter fun r => r.1 == j)) =
      (List.range I.length).map fun j => g (unschedJob I s j) :=
  List.map_congr_left fun j hj => by rw [filter_unscheduled_job, if_pos (List.mem_range.1 hj)]

theorem map_unschedJob_dispatch {α} {I : Instance} {s s' : State} {j p m : Nat} {op : Op} (hwf : WF I s)
    (hd : DispSpec I s s' j p m op) (g : List OpRef → α) (f : α → α)
    (hf : f (g ((j, p) :: unschedJob I s' j)) = g (unschedJob I s' j)) :
    ((List.range I.length).map fun k => g (unschedJob I s' k)) =
      ((List.range I.length).map fun k => g (unschedJob I s k)).modify j f := by
  apply List.ext_getElem
  · simp
  · intro k h1 h2
    rw [List.getElem_modify, List.getElem_map, List.getElem_map, List.getElem_range]
    split
    · next hk => subst hk; rw [(unschedJob_dispatch hwf hd j).2, hf]
    · next hk => rw [(unschedJob_dispatch hwf hd k).1 fun h => hk h.symm]

theorem durJobsSpec_dispatch {I : Instance} {s s' : State} {j p m : Nat} {op : Op} (hwf : WF I s)
    (hd : DispSpec I s s' j p m op) :
    durJobsSpec I s' = addAt (durJobsSpec I s) j (-op.dur) := by
  unfold durJobsSpec addAt
  rw [map_filter_unscheduled I s' fun l => (l.map (opDurF I)).sum,
    map_filter_unscheduled I s fun l => (l.map (opDurF I)).sum]
  refine map_unschedJob_dispatch hwf hd (fun l => (l.map (opDurF I)).sum) _ ?_
  simp only [List.map_cons, List.sum_cons, opDurF, hd.hop]
  omega

theorem find_map_same (ft : FT) (c : List Int) : ∀ (l : List (FT × List (List Int))), (∃ cs, (ft, cs) ∈ l) →
    (l.map fun (tc : FT × List (List Int)) => if tc.1 == ft then (tc.1, [c]) else (tc.1, tc.2)).find? (·.1 == ft)
      = some (ft, [c])
  | [], h => by obtain ⟨_, h⟩ := h; cases h
  | (t1, cs1) :: t, h => by
    simp only [List.map_cons, List.find?_cons]
    by_cases he : t1 = ft
    · subst he; simp
    · have hne : (t1 == ft) = false := by simpa using he
      simp only [hne, Bool.false_eq_true, ↓reduceIte]
      obtain ⟨cs, hcs⟩ := h
      rcases List.mem_cons.1 hcs with h1 | h1
      · cases h1; exact absurd rfl he
      · exact find_map_same ft c t ⟨cs, h1⟩

theorem find_map_other (ft ft' : FT) (c : List Int) (hne : ft' ≠ ft) : ∀ (l : List (FT × List (List Int))),
    (l.map fun (tc : FT × List (List Int)) => if tc.1 == ft then (tc.1, [c]) else (tc.1, tc.2)).find? (·.1 == ft')
      = l.find? (·.1 == ft')
  | [] => rfl
  | (t1, cs1) :: t => by
    simp only [List.map_cons, List.find?_cons]
    by_cases he : t1 = ft
    · rw [he]
      have : (ft == ft') = false := by simpa using fun h => hne h.symm
      simp only [beq_self_eq_true, ↓reduceIte, this]
      exact find_map_other ft ft' c hne t
    · have h1 : (t1 == ft) = false := by simpa using he
      simp only [h1, Bool.false_eq_true, ↓reduceIte]
      by_cases h2 : t1 = ft'
      · subst h2; simp
      · have : (t1 == ft') = false := by simpa using h2
        simp only [this]
        exact find_map_other ft ft' c hne t

theorem col_setCol_same (o : FObs) (ft : FT) (c : List Int) (h : ∃ cs, (ft, cs) ∈ o.cols) :
    (o.setCol ft c).col ft = c := by
  unfold FObs.setCol FObs.col
  simp only
  rw [find_map_same ft c o.cols h]

theorem col_setCol_other (o : FObs) (ft ft' : FT) (c : List Int) (hne : ft' ≠ ft) :
    (o.setCol ft c).col ft' = o.col ft' := by
  unfold FObs.setCol FObs.col
  simp only
  rw [find_map_other ft ft' c hne o.cols]

theorem setCol_keys (o : FObs) (ft : FT) (c : List Int) : (o.setCol ft c).cols.map (·.1) = o.cols.map (·.1) := by
  unfold FObs.setCol
  simp only [List.map_map]
  apply List.map_congr_left
  intro a _
  obtain ⟨t, cs⟩ := a
  simp only [Function.comp_apply]
  split <;> rfl

theorem setCol_fts (o : FObs) (ft : FT) (c : List Int) : (o.setCol ft c).fts = o.fts := rfl
theorem setCol_kind (o : FObs) (ft : FT) (c : List Int) : (o.setCol ft c).kind = o.kind := rfl

/-- a well-formed feature observer: one matrix per observed feature type, no type twice -/
structure FObs.WF (o : FObs) : Prop where
  keys : o.cols.map (·.1) = o.fts
  nodup : o.fts.Nodup

theorem FObs.WF.setCol {o : FObs} (h : o.WF) (ft : FT) (c : List Int) : (o.setCol ft c).WF :=
  ⟨by rw [setCol_keys, setCol_fts]; exact h.keys, h.nodup⟩

theorem FObs.WF.has_col {o : FObs} (h : o.WF) {ft : FT} (hft : ft ∈ o.fts) : ∃ cs, (ft, cs) ∈ o.cols := by
  rw [← h.keys] at hft
  obtain ⟨a, ha, rfl⟩ := List.mem_map.1 hft
  exact ⟨a.2, ha⟩

theorem has_iff {o : FObs} {ft : FT} : o.has ft = true ↔ ft ∈ o.fts := by simp [FObs.has]

theorem ifHas_setCol {o : FObs} (hw : o.WF) (ft : FT) (c : List Int) :
    (if o.has ft = true then o.setCol ft c else o).WF ∧
    (if o.has ft = true then o.setCol ft c else o).fts = o.fts ∧
    (ft ∈ o.fts → (if o.has ft = true then o.setCol ft c else o).col ft = c) ∧
    ∀ ft', ft' ≠ ft → (if o.has ft = true then o.setCol ft c else o).col ft' = o.col ft' := by
  by_cases h : o.has ft = true
  · rw [if_pos h]
    exact ⟨hw.setCol ft c, rfl, fun hft => col_setCol_same o ft c (hw.has_col hft),
      fun ft' hne => col_setCol_other o ft ft' c hne⟩
  · rw [if_neg h]
    exact ⟨hw, rfl, fun hft => absurd (has_iff.2 hft) h, fun _ _ => rfl⟩

theorem zeroed_wf (I : Instance) (o : FObs) (hnd : o.fts.Nodup) : (o.zeroed I).WF := by
  constructor
  · simp [FObs.zeroed, List.map_map, Function.comp_def]
  · exact hnd

theorem fold_setCol_col (g : FObs → FT → List Int) (hg : ∀ o ft ft' c, ft ≠ ft' → g (o.setCol ft' c) ft = g o ft) :
    ∀ (l : List FT) (o : FObs), o.WF → (∀ ft ∈ l, ft ∈ o.fts) → l.Nodup → ∀ ft, ft ∈ l →
      ((l.foldl (fun o ft => o.setCol ft (g o ft)) o).col ft = g o ft) ∧ (l.foldl (fun o ft => o.setCol ft (g o ft)) o).WF
  | [], o, hw, _, _, ft, h => by cases h
  | a :: t, o, hw, hsub, hnd, ft, hmem => by
    simp only [List.foldl_cons]
    rw [List.nodup_cons] at hnd
    have hw' := hw.setCol a (g o a)
    have hsub' : ∀ ft ∈ t, ft ∈ (o.setCol a (g o a)).fts := fun x hx => hsub x (by simp [hx])
    rcases List.mem_cons.1 hmem with rfl | hmem
    · -- later steps do not touch ft
      have : ∀ (l : List FT) (o' : FObs), ft ∉ l → o'.WF →
          (l.foldl (fun o ft => o.setCol ft (g o ft)) o').col ft = o'.col ft ∧
          (l.foldl (fun o ft => o.setCol ft (g o ft)) o').WF := by
        intro l
        induction l with
        | nil => intro o' _ hw'; exact ⟨rfl, hw'⟩
        | cons b l ih =>
          intro o' hn hw'
          simp only [List.foldl_cons]
          have hb : ft ≠ b := fun h => hn (by simp [h])
          obtain ⟨h1, h2⟩ := ih (o'.setCol b (g o' b)) (fun h => hn (by simp [h])) (hw'.setCol b _)
          exact ⟨by rw [h1, col_setCol_other _ _ _ _ hb], h2⟩
      obtain ⟨h1, h2⟩ := this t _ hnd.1 hw'
      exact ⟨by rw [h1, col_setCol_same o ft _ (hw.has_col (hsub ft (by simp)))], h2⟩
    · obtain ⟨h1, h2⟩ := fold_setCol_col g hg t _ hw' hsub' hnd.2 ft hmem
      have hne : ft ≠ a := fun h => hnd.1 (h ▸ hmem)
      exact ⟨by rw [h1, hg _ _ _ _ hne], h2⟩

theorem assignCols_col (o : FObs) (g : FObs → FT → List Int) (hw : o.WF)
    (hg : ∀ o ft ft' c, ft ≠ ft' → g (o.setCol ft' c) ft = g o ft) (ft : FT) (hft : ft ∈ o.fts) :
    (o.assignCols g).col ft = g o ft ∧ (o.assignCols g).WF :=
  fold_setCol_col g hg o.fts o hw (fun _ h => h) hw.nodup ft hft

theorem assignCols_keep {α} (f : FObs → α) (hf : ∀ o ft c, f (o.setCol ft c) = f o) (o : FObs)
    (g : FObs → FT → List Int) : f (o.assignCols g) = f o := by
  unfold FObs.assignCols
  have : ∀ (l : List FT) (o : FObs), f (l.foldl (fun o ft => o.setCol ft (g o ft)) o) = f o := by
    intro l
    induction l with
    | nil => intro o; rfl
    | cons a t ih => intro o; simp only [List.foldl_cons]; rw [ih, hf]
  exact this o.fts o

theorem assignCols_fts (o : FObs) (g : FObs → FT → List Int) : (o.assignCols g).fts = o.fts :=
  assignCols_keep FObs.fts (fun _ _ _ => rfl) o g

theorem assignCols_est (o : FObs) (g : FObs → FT → List Int) : (o.assignCols g).est = o.est :=
  assignCols_keep FObs.est (fun _ _ _ => rfl) o g

theorem estCol_indep (c : Cfg) (s : State) :
    ∀ (o : FObs) (ft ft' : FT) (cc : List Int), ft ≠ ft' → estCol c s (o.setCol ft' cc) ft = estCol c s o ft := by
  intro o ft ft' cc hne
  cases ft
  · rfl
  · rfl
  · simp only [estCol, col_setCol_other _ _ _ _ hne]
    rfl

theorem durationUpdateCol_indep (c : Cfg) (s : State) (x : SOp) :
    ∀ (o : FObs) (ft ft' : FT) (cc : List Int), ft ≠ ft' →
      durationUpdateCol c s x (o.setCol ft' cc) ft = durationUpdateCol c s x o ft := by
  intro o ft ft' cc hne
  cases ft <;> simp only [durationUpdateCol, col_setCol_other _ _ _ _ hne]

theorem isScheduledCol_indep (c : Cfg) (s : State) (x : SOp) :
    ∀ (o : FObs) (ft ft' : FT) (cc : List Int), ft ≠ ft' →
      isScheduledCol c s x (o.setCol ft' cc) ft = isScheduledCol c s x o ft := by
  intro o ft ft' cc hne
  cases ft <;> simp only [isScheduledCol, col_setCol_other _ _ _ _ hne]

theorem setAt_length (l : List Int) (i : Nat) (v : Int) : (setAt l i v).length = l.length := by simp [setAt]
theorem addAt_length (l : List Int) (i : Nat) (v : Int) : (addAt l i v).length = l.length := by simp [addAt]

theorem foldl_length {α} (f : List Int → α → List Int) (hf : ∀ l a, (f l a).length = l.length) :
    ∀ (xs : List α) (l : List Int), (xs.foldl f l).length = l.length
  | [], _ => rfl
  | a :: t, l => by simp only [List.foldl_cons]; rw [foldl_length f hf t, hf]

theorem getD_map_range {β} (f : Nat → β) (n j : Nat) (d : β) (h : j < n) : ((List.range n).map f).getD j d = f j := by
  simp [List.getD_eq_getElem?_getD, h]

theorem mem_allOps_of_unscheduled {I : Instance} {s : State} {r : OpRef} (h : r ∈ unscheduledPure I s) :
    r ∈ allOps I := by
  rw [mem_allOps']
  exact ((mem_unscheduledPure I s r).1 h).1

theorem getD_replicate_self {α} (n k : Nat) (a : α) : (List.replicate n a).getD k a = a := by
  rw [List.getD_eq_getElem?_getD, List.getElem?_replicate]
  split <;> rfl

theorem init_jobIdx_getD (I : Instance) (j : Nat) : (init I).jobIdx.getD j 0 = 0 := getD_replicate_self _ j 0

end JS
