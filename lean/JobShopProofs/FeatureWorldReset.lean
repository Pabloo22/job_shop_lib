import JobShopProofs.FeatureWorldDispatch
import JobShopProofs.Properties.C12
/-!
# `Dispatcher.reset` re-establishes the value invariant of the feature world

`FWorld.reset` puts the dispatcher back into its initial state and then calls `reset()` on every subscriber, in
order.  One such call may rewrite other heap entries (helpers are reset first) and may push missing helpers; every
entry that is rewritten or pushed ends up with the values its specification prescribes for the initial state, and
every subscriber is rewritten at least once.

The walk through `getUnscheduled`, `newRemaining`, `getRemaining`, `isCompletedInit` is stated so that it also serves the
constructors on a fresh dispatcher (`FeatureWorldCtor`): there every subscriber is correct already, here a helper that is
found may be stale, and the observer initialised from it is then excepted (`QX`) until its own `reset()` has run.
What each constructor does to the world is stated by cases (`construct_cases`, `getIsCompleted_cases`,
`constructResidual_cases`), for `FeatureWorldCtor` and for the fixed-point invariant of `ResetFresh` alike.
-/
namespace JS

namespace FWReset

/-- the shape of the earliest-start matrix -/
def EstSh (I : Instance) (est : List (List Int)) : Prop :=
  est.length = I.length ∧ ∀ j, (est.getD j []).length = (I.getD j []).length

theorem isScheduled_init (I : Instance) (r : OpRef) : isScheduled (init I) r = false := by
  unfold isScheduled
  rw [init_jobIdx_getD]
  simp

theorem schedOpsSpec_init (I : Instance) : schedOpsSpec I (init I) = zeros (numOps I) := by
  unfold schedOpsSpec zeros
  apply List.ext_getElem
  · simp [length_allOps]
  · intro k h1 h2
    simp [isScheduled_init]

theorem dequesSpec_init (I : Instance) : dequesSpec I (init I) = fullDequesF I := by
  unfold dequesSpec fullDequesF
  apply List.map_congr_left
  intro j _
  rw [init_jobIdx_getD, List.drop_zero]

theorem init_sched_flatten (I : Instance) : (init I).sched.flatten = [] := by
  simp [init]

theorem setCol_est (o : FObs) (ft : FT) (col : List Int) : (o.setCol ft col).est = o.est := rfl

/-- `EarliestStartTimeObserver.reset` -/
theorem fresh_est (c : Cfg) (s : State) {o : FObs} (hk : o.kind = .earliestStart) (hs : o.Shaped c.I)
    (he : EstSh c.I o.est) :
    Keeps c.I o (estFeatures c s (({ o with est := estCompute c.I s o.est } : FObs).zeroed c.I)) ∧
    ObsVal c s (estFeatures c s (({ o with est := estCompute c.I s o.est } : FObs).zeroed c.I)) :=
  have k1 := keeps_withEst hs (estCompute c.I s o.est)
  have k2 := k1.trans (keeps_zeroed (I := c.I) k1.shaped.wf.nodup)
  ⟨k2.trans (keeps_estFeatures c s k2.shaped), obsVal_estFeatures c s hk k2.shaped (estCompute_spec c.I s o.est he)⟩

/-- `DurationObserver.initialize_features` on zero arrays -/
theorem fresh_duration (c : Cfg) (s : State) {o : FObs} (hk : o.kind = .duration) (hnd : o.fts.Nodup) :
    Keeps c.I o (durationInit c s (o.zeroed c.I)) ∧ ObsVal c s (durationInit c s (o.zeroed c.I)) :=
  have hw : (o.zeroed c.I).WF := zeroed_wf c.I o hnd
  have k := keeps_durationInit c s (zeroed_shaped c.I o hnd)
  ⟨(keeps_zeroed hnd).trans k, obsVal_of_kind (k.kind.trans hk)
    ⟨fun hft => durationInit_ops c s _ hw (k.fts ▸ hft), fun hft => (durationInit_jobs c s _ hw (k.fts ▸ hft)).1,
     fun _ hft => durationInit_machines c s _ hw (k.fts ▸ hft)⟩⟩

theorem fresh_isScheduled (c : Cfg) {o : FObs} (hk : o.kind = .isScheduled) (hnd : o.fts.Nodup) :
    Keeps c.I o (o.zeroed c.I) ∧ ObsVal c (init c.I) (o.zeroed c.I) := by
  refine ⟨keeps_zeroed hnd, obsVal_of_kind (k := .isScheduled) hk ⟨fun hft => ?_, fun hft => ?_, fun hft => ?_⟩⟩
  · rw [zeroed_col c.I o hnd _ hft, schedOpsSpec_init]; rfl
  · rw [zeroed_col c.I o hnd _ hft, (ongoingSpecs_init c).1]; rfl
  · rw [zeroed_col c.I o hnd _ hft, (ongoingSpecs_init c).2]; rfl

/-- `PositionInJobObserver.initialize_features` on zero arrays (initial state) -/
theorem fresh_position (c : Cfg) {o : FObs} (hk : o.kind = .positionInJob) (hnd : o.fts.Nodup) :
    Keeps c.I o (positionInit c (init c.I) (o.zeroed c.I)) ∧
    ObsVal c (init c.I) (positionInit c (init c.I) (o.zeroed c.I)) := by
  have k := keeps_positionInit c (init c.I) (zeroed_shaped c.I o hnd)
  refine ⟨(keeps_zeroed hnd).trans k, obsVal_of_kind (k.kind.trans hk) fun hft => ?_⟩
  rw [k.fts] at hft
  refine (positionInit_spec c _ (zeroed_wf c.I o hnd) hft ?_).1
  rw [zeroed_col c.I o hnd _ hft, zeros_length]; rfl

/-- `RemainingOperationsObserver.initialize_features` on zero arrays, from the full deques (initial state) -/
theorem fresh_remaining (c : Cfg) {o : FObs} (hk : o.kind = .remainingOps) (hnd : o.fts.Nodup) :
    Keeps c.I o (remainingInit c (fullDequesF c.I) (o.zeroed c.I)) ∧
    ObsVal c (init c.I) (remainingInit c (fullDequesF c.I) (o.zeroed c.I)) := by
  have k := keeps_remainingInit c (fullDequesF c.I) (zeroed_shaped c.I o hnd)
  obtain ⟨h1, h2, _, _⟩ := remainingInit_spec c (init c.I) (o.zeroed c.I) (zeroed_wf c.I o hnd)
    (fun ft hft => zeroed_col c.I o hnd ft hft)
  rw [dequesSpec_init] at h1 h2
  exact ⟨(keeps_zeroed hnd).trans k,
    obsVal_of_kind (k.kind.trans hk) ⟨fun hft => h1 (k.fts ▸ hft), fun _ hft => h2 (k.fts ▸ hft)⟩⟩

/-- what `IsCompletedObserver.initialize_features` leaves in the observer, given the helper's columns -/
def icFinal (I : Instance) (rj rm : List Int) (x : FObs) : FObs :=
  { (x.zeroed I) with remJob := if (x.zeroed I).has .jobs then rj else (x.zeroed I).remJob,
                      remMach := if (x.zeroed I).has .machines then rm else (x.zeroed I).remMach }

/-- `IsCompletedObserver.initialize_features` with counters copied from a correct helper (initial state) -/
theorem fresh_isCompleted (c : Cfg) {o : FObs} (hk : o.kind = .isCompleted) (hnd : o.fts.Nodup) (rj rm : List Int)
    (hrj : FT.jobs ∈ o.fts → rj = remJobsSpec c.I (init c.I))
    (hrm : FT.machines ∈ o.fts → rm = remMachSpec c.I (init c.I)) :
    Keeps c.I o (icFinal c.I rj rm o) ∧ ObsVal c (init c.I) (icFinal c.I rj rm o) := by
  have hcol : ∀ ft ∈ o.fts, (icFinal c.I rj rm o).col ft = zeros (numEntities c.I ft) := fun ft hft =>
    zeroed_col c.I o hnd ft hft
  refine ⟨(keeps_zeroed hnd).trans (keeps_withRem (zeroed_shaped c.I o hnd) _ _),
    obsVal_of_kind (k := .isCompleted) hk ⟨fun hft => ?_, fun hft => ⟨?_, ?_⟩, fun hft => ⟨?_, ?_⟩⟩⟩
  · rw [hcol _ hft, (complSpecs_init c).1]; rfl
  · show (if (o.zeroed c.I).has .jobs = true then rj else _) = _
    rw [if_pos (show (o.zeroed c.I).has .jobs = true from has_iff.2 hft)]; exact hrj hft
  · rw [hcol _ hft, (complSpecs_init c).2]; rfl
  · show (if (o.zeroed c.I).has .machines = true then rm else _) = _
    rw [if_pos (show (o.zeroed c.I).has .machines = true from has_iff.2 hft)]; exact hrm hft
  · rw [hcol _ hft, complMachSpec_init]; rfl

theorem obs_at {w : FWorld} {k : Nat} (hlt : k < w.heap.length) : ∃ o, w.heap[k]? = some o :=
  ⟨w.heap[k], List.getElem?_eq_getElem hlt⟩


end FWReset

theorem world_ext {w w' : FWorld} (h1 : w.cfg = w'.cfg) (h2 : w.s = w'.s) (h3 : w.subs = w'.subs)
    (h4 : w.heap = w'.heap) : w = w' := by
  cases w; cases w'; simp only at h1 h2 h3 h4; subst h1 h2 h3 h4; rfl

theorem push_set (w : FWorld) (b x : FObs) : (w.push b).1.setObs (w.push b).2 x = (w.push x).1 := by
  refine world_ext rfl rfl rfl ?_
  simp only [FWorld.push, FWorld.setObs]
  rw [List.set_append_right _ _ (Nat.le_refl _)]
  simp

namespace FWReset

/-- shape facts every entry keeps -/
def ShQ (c : Cfg) (o : FObs) : Prop :=
  (o.kind.single = true → o.Shaped c.I) ∧ (o.kind = .earliestStart → EstSh c.I o.est)

/-- what a rewritten or pushed entry at index `k` satisfies: the shape facts and — unless `k` is excepted — the
values specified for the initial state -/
def QX (c : Cfg) (E : Nat → Prop) (k : Nat) (o : FObs) : Prop :=
  ShQ c o ∧ (¬ E k → ObsVal c (init c.I) o)

/-- no exception -/
abbrev Q0 (c : Cfg) : Nat → FObs → Prop := QX c (fun _ => False)

theorem shq_of_obsVal {c : Cfg} {s : State} {o : FObs} (h : ObsVal c s o) (hs : o.kind.single = true → o.Shaped c.I) :
    ShQ c o :=
  ⟨hs, fun hk => ⟨(h.estM hk).1, (h.estM hk).2.1⟩⟩

theorem qx_of_obsVal {c : Cfg} {o : FObs} (E : Nat → Prop) (k : Nat) (h : ObsVal c (init c.I) o)
    (hs : o.kind.single = true → o.Shaped c.I) : QX c E k o :=
  ⟨shq_of_obsVal h hs, fun _ => h⟩

/-- `w'` is `w` with some entries rewritten and some pushed; an entry of `w` keeps its kind and (single-column
observers) its feature types; an entry of `w'` is the one `w` has at that place, or satisfies `Q` -/
structure Mod (Q : Nat → FObs → Prop) (w w' : FWorld) : Prop where
  good : Good w w'
  len : w.heap.length ≤ w'.heap.length
  newsubs : ∀ id ∈ w'.subs, id ∈ w.subs ∨ w.heap.length ≤ id
  keep : ∀ (k : Nat) (o : FObs), w.heap[k]? = some o → ∃ o' : FObs, w'.heap[k]? = some o' ∧ o'.kind = o.kind ∧
    (o.kind.single = true → o'.fts = o.fts)
  val : ∀ (k : Nat) (o' : FObs), w'.heap[k]? = some o' → w.heap[k]? = some o' ∨ Q k o'

theorem Mod.new {Q : Nat → FObs → Prop} {w w' : FWorld} (h : Mod Q w w') (k : Nat) (o' : FObs)
    (hk : w.heap.length ≤ k) (ho' : w'.heap[k]? = some o') : Q k o' :=
  (h.val k o' ho').resolve_left fun h0 => absurd (heap_lt h0) (Nat.not_lt.2 hk)

theorem Mod.oldsub {Q : Nat → FObs → Prop} {w w' : FWorld} (h : Mod Q w w') {id : Nat} {o : FObs}
    (hid : id ∈ w'.subs) (ho : w.heap[id]? = some o) : id ∈ w.subs :=
  (h.newsubs id hid).resolve_right (Nat.not_le.2 (heap_lt ho))

theorem Mod.refl (Q : Nat → FObs → Prop) (w : FWorld) : Mod Q w w :=
  ⟨Good.refl w, Nat.le_refl _, fun _ h => Or.inl h, fun _ o h => ⟨o, h, rfl, fun _ => rfl⟩, fun _ _ h => Or.inl h⟩

theorem Mod.trans {Q : Nat → FObs → Prop} {a b c : FWorld} (h1 : Mod Q a b) (h2 : Mod Q b c) : Mod Q a c := by
  refine ⟨h1.good.trans h2.good, Nat.le_trans h1.len h2.len, fun id hid => ?_, fun k o ho => ?_, fun k o' ho' => ?_⟩
  · rcases h2.newsubs id hid with h | h
    · exact h1.newsubs id h
    · exact Or.inr (Nat.le_trans h1.len h)
  · obtain ⟨o1, g1, k1, f1⟩ := h1.keep k o ho
    obtain ⟨o2, g2, k2, f2⟩ := h2.keep k o1 g1
    exact ⟨o2, g2, k2.trans k1, fun hs => (f2 (k1 ▸ hs)).trans (f1 hs)⟩
  · rcases h2.val k o' ho' with h | h
    · exact h1.val k o' h
    · exact Or.inr h

theorem Mod.mono {Q Q' : Nat → FObs → Prop} {w w' : FWorld} (h : Mod Q w w')
    (hq : ∀ k o', w'.heap[k]? = some o' → Q k o' → Q' k o') : Mod Q' w w' :=
  ⟨h.good, h.len, h.newsubs, h.keep, fun k o' ho' => (h.val k o' ho').imp_right (hq k o' ho')⟩

theorem mod_push (Q : Nat → FObs → Prop) (w : FWorld) (o : FObs) (hq : Q w.heap.length o) : Mod Q w (w.push o).1 := by
  refine ⟨good_push w o, by simp [FWorld.push], fun id hid => ?_, fun k o0 hk => ?_, fun k o' ho' => ?_⟩
  · rcases List.mem_append.1 hid with h | h
    · exact Or.inl h
    · exact Or.inr (Nat.le_of_eq (List.mem_singleton.1 h).symm)
  · exact ⟨o0, by rw [push_heap_old w o (heap_lt hk)]; exact hk, rfl, fun _ => rfl⟩
  · rcases push_heap_cases ho' with h | ⟨rfl, rfl⟩
    · exact Or.inl h
    · exact Or.inr hq

theorem mod_setObs (Q : Nat → FObs → Prop) (w : FWorld) (id : Nat) (o' : FObs)
    (h : ∀ o0, w.heap[id]? = some o0 → o'.kind = o0.kind ∧ (o0.kind.single = true → o'.fts = o0.fts) ∧ Q id o') :
    Mod Q w (w.setObs id o') := by
  refine ⟨good_setObs w id o', by simp [FWorld.setObs], fun _ hid => Or.inl hid, fun k o hk => ?_, fun k o1 ho1 => ?_⟩
  · by_cases hik : id = k
    · subst hik
      exact ⟨o', setObs_heap_self (heap_lt hk) o', (h o hk).1, (h o hk).2.1⟩
    · exact ⟨o, by rw [setObs_heap_ne w hik]; exact hk, rfl, fun _ => rfl⟩
  · rcases setObs_heap_cases ho1 with ⟨rfl, rfl⟩ | ⟨_, h1⟩
    · have hlt : k < w.heap.length := by simpa only [FWorld.setObs, List.length_set] using heap_lt ho1
      exact Or.inr (h _ (List.getElem?_eq_getElem hlt)).2.2
    · exact Or.inl h1

/-- the invariant of the fold over the subscribers in `FWorld.reset` -/
structure J (c : Cfg) (w : FWorld) : Prop where
  cfg : w.cfg = c
  s : w.s = init c.I
  subs : SubsOK w
  shape : ∀ (k : Nat) (o : FObs), w.heap[k]? = some o → o.kind.single = true → o.Shaped c.I
  est : ∀ id ∈ w.subs, ∀ o : FObs, w.heap[id]? = some o → o.kind = .earliestStart → EstSh c.I o.est

theorem J.of_finv {w : FWorld} (h : FInv w) : J w.cfg { w with s := JS.init w.cfg.I } :=
  ⟨rfl, rfl, ⟨h.subs.nodup, h.subs.valid⟩, h.shape, fun id hid o ho hk =>
    ⟨((h.val id hid o ho).estM hk).1, ((h.val id hid o ho).estM hk).2.1⟩⟩

theorem J.ext {c : Cfg} {w w' : FWorld} {E : Nat → Prop} (hj : J c w) (hm : Mod (QX c E) w w') : J c w' := by
  refine ⟨hm.good.st.1.trans hj.cfg, hm.good.st.2.trans hj.s, hm.good.ok hj.subs, fun k o' ho' hs => ?_,
    fun id hid o' ho' hk => ?_⟩
  · rcases hm.val k o' ho' with h | h
    · exact hj.shape k o' h hs
    · exact h.1.1 hs
  · rcases hm.val id o' ho' with h | h
    · exact hj.est id (hm.oldsub hid h) o' h hk
    · exact h.1.2 hk

/-- the entry at `k` (if any) has the values specified for the initial state -/
def FreshAt (c : Cfg) (w : FWorld) (k : Nat) : Prop := ∀ o, w.heap[k]? = some o → ObsVal c (init c.I) o

theorem FreshAt.ext {c : Cfg} {w w' : FWorld} {E : Nat → Prop} {k : Nat} (hf : FreshAt c w k)
    (hm : Mod (QX c E) w w') (hk : ¬ E k) : FreshAt c w' k := fun o' ho' =>
  (hm.val k o' ho').elim (hf o') fun h => h.2 hk

theorem J.finv {c : Cfg} {w : FWorld} (hj : J c w) (hall : ∀ id ∈ w.subs, FreshAt c w id) : FInv w := by
  obtain rfl := hj.cfg
  exact ⟨hj.shape, hj.subs, ⟨[], hj.s⟩, fun id hid o ho => hj.s ▸ hall id hid o ho⟩

/-- an excepted entry that has become correct need not be excepted any more -/
theorem Mod.fresh {c : Cfg} {E E' : Nat → Prop} {w w' : FWorld} {k0 : Nat} (h : Mod (QX c E') w w')
    (hE : ∀ k, E' k → E k ∨ k = k0) (hf : ¬ E k0 → FreshAt c w' k0) : Mod (QX c E) w w' := by
  refine h.mono fun k o' ho' hq => ⟨hq.1, fun hk => ?_⟩
  by_cases e : E' k
  · rcases hE k e with h1 | h1
    · exact absurd h1 hk
    · subst h1; exact hf hk o' ho'
  · exact hq.2 e

theorem qx_weaken {c : Cfg} (E : Nat → Prop) {k : Nat} {o : FObs} (h : Q0 c k o) : QX c E k o :=
  ⟨h.1, fun _ => h.2 (fun hf => hf)⟩

theorem setObs_fresh {c : Cfg} {w : FWorld} {id : Nat} {o o' : FObs} (E : Nat → Prop) (ho : w.heap[id]? = some o)
    (hkind : o'.kind = o.kind) (hfts : o.kind.single = true → o'.fts = o.fts) (hval : ObsVal c (init c.I) o')
    (hsh : o'.kind.single = true → o'.Shaped c.I) :
    Mod (QX c E) w (w.setObs id o') ∧ FreshAt c (w.setObs id o') id := by
  refine ⟨mod_setObs _ w id o' fun o0 h0 => ?_, fun o1 ho1 => ?_⟩
  · rw [ho] at h0; cases h0
    exact ⟨hkind, hfts, qx_of_obsVal _ _ hval hsh⟩
  · rw [setObs_heap_self (heap_lt ho)] at ho1
    cases ho1
    exact hval

theorem setObs_freshKeeps {c : Cfg} {w : FWorld} {id : Nat} {o o' : FObs} (E : Nat → Prop) (ho : w.heap[id]? = some o)
    (h : Keeps c.I o o' ∧ ObsVal c (init c.I) o') : Mod (QX c E) w (w.setObs id o') ∧ FreshAt c (w.setObs id o') id :=
  setObs_fresh E ho h.1.kind (fun _ => h.1.fts) h.2 (fun _ => h.1.shaped)

/-- `UnscheduledOperationsObserver.reset` -/
theorem setObs_unscheduled {c : Cfg} {w : FWorld} {id : Nat} {u : FObs} (E : Nat → Prop) (hu : w.heap[id]? = some u)
    (hk : u.kind = .unscheduled) :
    Mod (QX c E) w (w.setObs id { u with deques := fullDequesF c.I }) ∧
    FreshAt c (w.setObs id { u with deques := fullDequesF c.I }) id :=
  setObs_fresh E hu rfl (fun _ => rfl) (obsVal_of_kind (k := .unscheduled) hk (dequesSpec_init c.I).symm)
    (fun h => by rw [show ({ u with deques := fullDequesF c.I } : FObs).kind = .unscheduled from hk] at h; cases h)

theorem find?_congr' {α} (p q : α → Bool) : ∀ (l : List α), (∀ a ∈ l, p a = q a) → l.find? p = l.find? q
  | [], _ => rfl
  | a :: t, h => by
    simp only [List.find?_cons]
    rw [h a (by simp), find?_congr' p q t (fun x hx => h x (by simp [hx]))]

/-- the lookup predicate of `findObs` -/
def findP (w : FWorld) (kind : FKind) (need : List FT) (id : Nat) : Bool :=
  match w.heap[id]? with
  | some o => o.kind == kind && need.all (fun ft => o.fts.contains ft)
  | none => false

theorem findObs_eq (w : FWorld) (kind : FKind) (need : List FT) : w.findObs kind need = w.subs.find? (findP w kind need) := rfl

theorem findP_mod {Q : Nat → FObs → Prop} {w w' : FWorld} (hm : Mod Q w w') (hs : SubsOK w) {kind : FKind}
    (hk : kind.single = true) (need : List FT) : ∀ id ∈ w.subs, findP w' kind need id = findP w kind need id := by
  intro id hid
  have hlt := hs.valid id hid
  obtain ⟨o, g⟩ := obs_at hlt
  obtain ⟨o', g', k', f'⟩ := hm.keep id o g
  simp only [findP, g, g']
  by_cases hkk : o.kind = kind
  · rw [k', f' (hkk ▸ hk)]
  · have h1 : (o.kind == kind) = false := by simpa using hkk
    have h2 : (o'.kind == kind) = false := by rw [k']; exact h1
    simp [h1, h2]

theorem findObs_mod {Q : Nat → FObs → Prop} {w w' : FWorld} (hm : Mod Q w w') (hs : SubsOK w) {kind : FKind}
    (hk : kind.single = true) {need : List FT} {r : Nat} (h : w.findObs kind need = some r) :
    w'.findObs kind need = some r := by
  obtain ⟨t, ht⟩ := hm.good.pre
  rw [findObs_eq] at h ⊢
  rw [ht, List.find?_append, find?_congr' _ _ _ (findP_mod hm hs hk need), h]
  rfl

theorem findObs_new {Q : Nat → FObs → Prop} {w w' : FWorld} (hm : Mod Q w w') (hs : SubsOK w) {kind : FKind}
    (hk : kind.single = true) {need : List FT} (h : w.findObs kind need = none) (t : List Nat)
    (ht : w'.subs = w.subs ++ w.heap.length :: t) (o' : FObs) (ho' : w'.heap[w.heap.length]? = some o')
    (hkind : o'.kind = kind) (hfts : ∀ ft ∈ need, ft ∈ o'.fts) : w'.findObs kind need = some w.heap.length := by
  rw [findObs_eq] at h ⊢
  rw [ht, List.find?_append, find?_congr' _ _ _ (findP_mod hm hs hk need), h]
  have : findP w' kind need w.heap.length = true := by
    simp only [findP, ho', hkind, beq_self_eq_true, Bool.true_and, List.all_eq_true, List.contains_eq_mem,
      decide_eq_true_eq]
    exact hfts
  simp [this]

theorem findObs_setObs {w : FWorld} {id : Nat} {o o' : FObs} (ho : w.heap[id]? = some o) (hk : o'.kind = o.kind)
    (hf : o'.fts = o.fts) (kind : FKind) (need : List FT) : (w.setObs id o').findObs kind need = w.findObs kind need := by
  rw [findObs_eq, findObs_eq]
  refine find?_congr' _ _ _ fun i _ => ?_
  by_cases hi : id = i
  · subst hi
    simp only [findP, setObs_heap_self (heap_lt ho), ho, hk, hf]
  · simp only [findP, setObs_heap_ne w hi]

theorem findObs_push_eq {w : FWorld} (hs : SubsOK w) (o : FObs) (kind : FKind) (need : List FT) :
    (w.push o).1.findObs kind need = (w.findObs kind need).or
      (if (o.kind == kind && need.all (fun ft => o.fts.contains ft)) = true then some w.heap.length else none) := by
  rw [findObs_eq, findObs_eq]
  show (w.subs ++ [w.heap.length]).find? _ = _
  rw [List.find?_append, find?_congr' _ (findP w kind need) w.subs fun i hi => by
    simp only [findP, push_heap_old w o (hs.valid i hi)]]
  congr 1
  have e : findP (w.push o).1 kind need w.heap.length = (o.kind == kind && need.all fun ft => o.fts.contains ft) := by
    simp only [findP, push_heap_new]
  rw [List.find?_cons, e]
  cases (o.kind == kind && need.all fun ft => o.fts.contains ft) <;> rfl

theorem findObs_push {w : FWorld} (hs : SubsOK w) (o : FObs) {kind : FKind} (hk : o.kind ≠ kind) (need : List FT) :
    (w.push o).1.findObs kind need = w.findObs kind need := by
  have : (o.kind == kind) = false := by simpa using hk
  rw [findObs_push_eq hs, this, Bool.false_and, if_neg (by simp), Option.or_none]

theorem mod_of_edits {N : FObs → Prop} {lo : Nat} {w v : FWorld} (e : Edits N lo w v) : Mod (fun _ _ => True) w v := by
  refine ⟨Good.of_edits e, e.len, fun id hid => ?_, fun k o ho => ?_, fun _ _ _ => Or.inr trivial⟩
  · rw [e.subs] at hid
    rcases List.mem_append.1 hid with h | h
    · exact Or.inl h
    · exact Or.inr (List.mem_range'_1.1 h).1
  · obtain ⟨o', h1, r⟩ := e.old ho
    rcases r with rfl | ⟨_, r⟩
    · exact ⟨_, h1, rfl, fun _ => rfl⟩
    · exact ⟨o', h1, r.kind, fun _ => r.fts⟩

theorem getRemaining_found {w : FWorld} (hok : SubsOK w) (need : List FT) :
    (w.getRemaining need).1.findObs .remainingOps need = some (w.getRemaining need).2 := by
  unfold FWorld.getRemaining
  cases hf : w.findObs .remainingOps need with
  | some id => exact hf
  | none =>
    obtain ⟨e, _, x, hx, hk, hn⟩ := newRemaining_edits (lo := 0) w need (Nat.zero_le _)
    change (w.newRemaining need).1.heap[w.heap.length]? = some x at hx
    obtain ⟨n, hlen⟩ : ∃ n, (w.newRemaining need).1.heap.length - w.heap.length = n + 1 :=
      ⟨(w.newRemaining need).1.heap.length - w.heap.length - 1, by have := heap_lt hx; omega⟩
    exact findObs_new (mod_of_edits e) hok rfl hf (List.range' (w.heap.length + 1) n)
      (by rw [e.subs, hlen, List.range'_succ]) x hx hk hn

/-- every subscribed `UnscheduledOperationsObserver` is correct for the initial state -/
def UFresh (c : Cfg) (w : FWorld) : Prop :=
  ∀ id ∈ w.subs, ∀ o, w.heap[id]? = some o → o.kind = .unscheduled → ObsVal c (init c.I) o

theorem UFresh.push {c : Cfg} {w : FWorld} (h : UFresh c w) (o : FObs) (hk : o.kind ≠ .unscheduled) :
    UFresh c (w.push o).1 := by
  intro id hid x hx hkx
  rcases push_heap_cases hx with h1 | ⟨_, rfl⟩
  · refine h id ?_ x h1 hkx
    rcases List.mem_append.1 hid with h2 | h2
    · exact h2
    · have := heap_lt h1
      rw [List.mem_singleton] at h2
      omega
  · exact absurd hkx hk

theorem UFresh.setObs {c : Cfg} {w : FWorld} (h : UFresh c w) (id : Nat) (o : FObs) (hk : o.kind ≠ .unscheduled) :
    UFresh c (w.setObs id o) := by
  intro i hi x hx hkx
  rcases setObs_heap_cases hx with ⟨_, rfl⟩ | ⟨_, h1⟩
  · exact absurd hkx hk
  · exact h i hi x h1 hkx

theorem getUnscheduled_mod {c : Cfg} {w : FWorld} (hj : J c w) (E : Nat → Prop) :
    Mod (QX c E) w w.getUnscheduled.1 ∧
    ∃ u, w.getUnscheduled.1.heap[w.getUnscheduled.2]? = some u ∧ u.kind = .unscheduled ∧
      (UFresh c w → u.deques = fullDequesF c.I) := by
  unfold FWorld.getUnscheduled
  cases hf : w.findObs .unscheduled [] with
  | some id =>
    obtain ⟨hid, o, ho, hk, _⟩ := findObs_subAt hf
    exact ⟨Mod.refl _ w, o, ho, hk, fun hu => ((hu id hid o ho hk).unsched hk).trans (dequesSpec_init c.I)⟩
  | none =>
    simp only
    have hd : w.s.sched.flatten.foldl (fun d x => popJobF d x.job) (fullDequesF w.cfg.I) = fullDequesF c.I := by
      rw [hj.s, hj.cfg, init_sched_flatten, List.foldl_nil]
    rw [hd]
    refine ⟨mod_push _ w _ (qx_of_obsVal _ _ ?_ (fun h => nomatch h)), _, push_heap_new w _, rfl, fun _ => rfl⟩
    exact obsVal_of_kind (k := .unscheduled) rfl (dequesSpec_init c.I).symm

/-- push `b`, get the `UnscheduledOperationsObserver`, initialise `b` from its deques: the body that the constructor of
`RemainingOperationsObserver` and `newRemaining` (the helper of `IsCompletedObserver`) share -/
def remFlow (w : FWorld) (b : FObs) : FWorld :=
  (w.push b).1.getUnscheduled.1.setObs w.heap.length
    (remainingInit (w.push b).1.getUnscheduled.1.cfg
      ((w.push b).1.getUnscheduled.1.heap.getD (w.push b).1.getUnscheduled.2 default).deques b)

theorem newRemaining_remFlow (w : FWorld) (fts : List FT) :
    w.newRemaining fts = (remFlow w (({ kind := .remainingOps, fts := fts } : FObs).zeroed w.cfg.I), w.heap.length) := by
  unfold FWorld.newRemaining remFlow
  simp only [show ∀ o, (w.push o).2 = w.heap.length from fun _ => rfl]
  rw [getD_of_get (getUnscheduled_keep _ (push_heap_new w _))]

/-- `IsCompletedObserver.initialize_features` in terms of the lookup `g` it makes: the observer is zeroed, the helper
`r` is obtained (the zeroed observer stays in place), and the observer gets its final form from the helper's columns -/
theorem isCompletedInit_eq {w : FWorld} {id : Nat} {o : FObs} (ho : w.heap[id]? = some o) (g : FWorld × Nat)
    (hg : g = (w.setObs id (o.zeroed w.cfg.I)).getRemaining ((o.zeroed w.cfg.I).fts.filter (· != .operations)))
    {r : FObs} (hr : g.1.heap[g.2]? = some r) :
    g.1.heap[id]? = some (o.zeroed w.cfg.I) ∧
    w.isCompletedInit id = g.1.setObs id (icFinal w.cfg.I (r.col .jobs) (r.col .machines) o) := by
  subst hg
  have g := (getRemaining_edits (lo := (w.setObs id (o.zeroed w.cfg.I)).heap.length) (w.setObs id (o.zeroed w.cfg.I))
    ((o.zeroed w.cfg.I).fts.filter (· != .operations)) (Nat.le_refl _)).1.keep
    (setObs_heap_self (heap_lt ho) (o.zeroed w.cfg.I))
  refine ⟨g, ?_⟩
  unfold FWorld.isCompletedInit
  simp only
  rw [getD_of_get ho, getD_of_get g, getD_of_get hr]
  rfl

/-- what the constructor of each kind does to the world: nothing (it raised, or the singleton exists already), one
observer pushed in its initialised form, or — `RemainingOperationsObserver`, `IsCompletedObserver` — a push followed by
the initialisation that looks for helpers -/
theorem construct_cases {P : FWorld → Prop} (w : FWorld) (kind : FKind) (fts : Option (List FT)) (h0 : P w)
    (hU : P (w.push { kind := .unscheduled,
                      deques := w.s.sched.flatten.foldl (fun d x => popJobF d x.job) (fullDequesF w.cfg.I) }).1)
    (hH : P (w.push { kind := .history }).1)
    (hM : P (w.push { kind := .makespanReward, curMakespan := makespan w.s }).1)
    (hI : P (w.push { kind := .idleReward }).1)
    (hF : ∀ l, resolveFts kind fts = some l →
      (kind = .isReady → P (w.push (isReadyFeatures w.cfg w.s (baseOf w.cfg.I kind l))).1) ∧
      (kind = .earliestStart → P (w.push (estFeatures w.cfg w.s (baseOf w.cfg.I kind l))).1) ∧
      (kind = .duration → P (w.push (durationInit w.cfg w.s (baseOf w.cfg.I kind l))).1) ∧
      (kind = .isScheduled → P (w.push (baseOf w.cfg.I kind l)).1) ∧
      (kind = .positionInJob → P (w.push (positionInit w.cfg w.s (baseOf w.cfg.I kind l))).1) ∧
      (kind = .remainingOps → P (remFlow w (baseOf w.cfg.I kind l))) ∧
      (kind = .isCompleted → P ((w.push (baseOf w.cfg.I kind l)).1.isCompletedInit w.heap.length))) :
    P (w.construct kind fts).1 := by
  have single : ∀ x : FObs, P (w.push x).1 →
      P (if w.subs.any (fun id => (w.heap[id]?.map (·.kind)) == some kind) then (w, none)
        else ((w.push x).1, some w.heap.length)).1 := by
    intro x hx; split
    · exact h0
    · exact hx
  cases kind
  case unscheduled => exact single _ hU
  case history => exact single _ hH
  case makespanReward => exact single _ hM
  case idleReward => exact single _ hI
  case composite => exact h0
  case residual => exact h0
  all_goals
    simp only [FWorld.construct]
    cases hr : resolveFts _ fts with
    | none => exact h0
    | some l => ?_
  all_goals dsimp only
  case isReady =>
    rw [push_set]
    exact (hF l hr).1 rfl
  case earliestStart =>
    rw [push_set]
    exact (hF l hr).2.1 rfl
  case duration =>
    rw [push_set]
    exact (hF l hr).2.2.1 rfl
  case isScheduled => exact (hF l hr).2.2.2.1 rfl
  case positionInJob =>
    rw [push_set]
    exact (hF l hr).2.2.2.2.1 rfl
  case remainingOps => exact (hF l hr).2.2.2.2.2.1 rfl
  case isCompleted => exact (hF l hr).2.2.2.2.2.2 rfl

/-- `create_or_get_observer(IsCompletedObserver, …)`: the observer is found, or a zeroed one is pushed and initialised -/
theorem getIsCompleted_cases {P : FWorld → Prop} (w : FWorld) (need : List FT) (h0 : P w)
    (h1 : P ((w.push (({ kind := .isCompleted, fts := need } : FObs).zeroed w.cfg.I)).1.isCompletedInit w.heap.length)) :
    P (w.getIsCompleted need).1 := by
  unfold FWorld.getIsCompleted
  cases w.findObs .isCompleted need with
  | some id => exact h0
  | none => exact h1

/-- the constructor of the residual graph updater: nothing (one exists), or the updater is pushed, after the
`IsCompletedObserver` it reads has been obtained if it removes machine or job nodes -/
theorem constructResidual_cases {P : FWorld → Prop} (w : FWorld) (g : Graph) (rm rj : Bool) (h0 : P w)
    (h1 : ∀ w1 parts, (w1 = w ∨ ∃ need : List FT, need.Nodup ∧ w1 = (w.getIsCompleted need).1) →
      P (w1.push { kind := .residual, parts := parts, graph := g, graph0 := g, rmMach := rm, rmJob := rj }).1) :
    P (w.constructResidual g rm rj).1 := by
  unfold FWorld.constructResidual
  split
  · exact h0
  · have hnd : ((if rm then [FT.machines] else []) ++ (if rj then [FT.jobs] else [])).Nodup := by
      cases rm <;> cases rj <;> decide
    generalize (if rm then [FT.machines] else []) ++ (if rj then [FT.jobs] else []) = need at hnd
    dsimp only
    split
    · exact h1 _ _ (Or.inl rfl)
    · exact h1 _ _ (Or.inr ⟨need, hnd, rfl⟩)

theorem remFlow_mod {c : Cfg} {w : FWorld} (hj : J c w) (b : FObs) (hbk : b.kind = .remainingOps) (hnd : b.fts.Nodup)
    (E : Nat → Prop) (hu : ¬ E w.heap.length → UFresh c w) : Mod (QX c E) w (remFlow w (b.zeroed c.I)) := by
  have hz := zeroed_shaped c.I b hnd
  have m1 : Mod (QX c (fun k => E k ∨ k = w.heap.length)) w (w.push (b.zeroed c.I)).1 :=
    mod_push _ w _ ⟨⟨fun _ => hz, fun h => by rw [zeroed_kind, hbk] at h; cases h⟩, fun h => absurd (Or.inr rfl) h⟩
  have j1 := hj.ext m1
  have hu1 : ¬ E w.heap.length → UFresh c (w.push (b.zeroed c.I)).1 := fun h =>
    (hu h).push _ (by rw [zeroed_kind, hbk]; simp)
  obtain ⟨m2, u, hu2, _, hdq⟩ := getUnscheduled_mod j1 (fun k => E k ∨ k = w.heap.length)
  have g2 := getUnscheduled_keep _ (push_heap_new w (b.zeroed c.I))
  unfold remFlow
  generalize (w.push (b.zeroed c.I)).1.getUnscheduled = r2 at m2 u hu2 hdq g2
  obtain ⟨w2, uid⟩ := r2
  simp only at m2 hu2 g2 ⊢
  rw [getD_of_get hu2, (j1.ext m2).cfg]
  have k := keeps_remainingInit c u.deques hz
  have m3 : Mod (QX c (fun k => E k ∨ k = w.heap.length)) w2
      (w2.setObs w.heap.length (remainingInit c u.deques (b.zeroed c.I))) :=
    mod_setObs _ _ _ _ fun o0 h0 => by
      rw [g2] at h0; cases h0
      exact ⟨k.kind, fun _ => k.fts, ⟨fun _ => k.shaped, fun h => by rw [k.kind, zeroed_kind, hbk] at h; cases h⟩,
        fun h => absurd (Or.inr rfl) h⟩
  refine (m1.trans (m2.trans m3)).fresh (fun _ h => h) fun hE o' ho' => ?_
  rw [setObs_heap_self (heap_lt g2)] at ho'
  cases ho'
  rw [hdq (hu1 hE)]
  exact (fresh_remaining c hbk hnd).2

theorem getRemaining_mod {c : Cfg} {w : FWorld} (hj : J c w) (need : List FT) (hnd : need.Nodup) (E : Nat → Prop)
    (hu : w.findObs .remainingOps need = none → ¬ E w.heap.length → UFresh c w) :
    Mod (QX c E) w (w.getRemaining need).1 ∧
    (¬ E (w.getRemaining need).2 → (∀ r, w.findObs .remainingOps need = some r → FreshAt c w r) →
      FreshAt c (w.getRemaining need).1 (w.getRemaining need).2) := by
  unfold FWorld.getRemaining
  cases hf : w.findObs .remainingOps need with
  | some id => exact ⟨Mod.refl _ w, fun _ h => h id rfl⟩
  | none =>
    have m := remFlow_mod hj { kind := .remainingOps, fts := need } rfl hnd E (hu hf)
    simp only
    rw [newRemaining_remFlow, hj.cfg]
    exact ⟨m, fun hE _ o ho => (m.new _ o (Nat.le_refl _) ho).2 hE⟩

/-- `RemainingOperationsObserver.reset`: the helper, then the observer itself -/
theorem resetRemaining_mod {c : Cfg} {w : FWorld} (hj : J c w) {id : Nat} {o : FObs} (ho : w.heap[id]? = some o)
    (hk : o.kind = .remainingOps) :
    Mod (Q0 c) w (w.resetRemaining id) ∧ FreshAt c (w.resetRemaining id) id := by
  unfold FWorld.resetRemaining
  simp only
  obtain ⟨m1, u, hu, hku, _⟩ := getUnscheduled_mod hj (fun _ => False)
  generalize w.getUnscheduled = r1 at m1 hu
  obtain ⟨w1, uid⟩ := r1
  simp only at m1 hu ⊢
  have j1 : J c w1 := hj.ext m1
  rw [getD_of_get hu, j1.cfg]
  obtain ⟨m2, _⟩ := setObs_unscheduled (c := c) (fun _ => False) hu hku
  have hu2 : (w1.setObs uid { u with deques := fullDequesF c.I }).heap[uid]? = some { u with deques := fullDequesF c.I } :=
    setObs_heap_self (heap_lt hu) _
  generalize w1.setObs uid { u with deques := fullDequesF c.I } = w2 at m2 hu2
  have j2 : J c w2 := j1.ext m2
  obtain ⟨o2, ho2, hk2, _⟩ := (m1.trans m2).keep id o ho
  have hk2' : o2.kind = .remainingOps := hk2.trans hk
  have hsh2 := j2.shape _ _ ho2 (by rw [hk2']; rfl)
  rw [getD_of_get ho2, getD_of_get hu2, j2.cfg]
  obtain ⟨m3, f3⟩ := setObs_freshKeeps (fun _ => False) ho2 (fresh_remaining c hk2' hsh2.wf.nodup)
  exact ⟨m1.trans (m2.trans m3), f3⟩

theorem isCompletedInit_mod {c : Cfg} {w : FWorld} (hj : J c w) {id : Nat} {o : FObs} (ho : w.heap[id]? = some o)
    (hk : o.kind = .isCompleted)
    (hr : ∀ r, w.findObs .remainingOps (o.fts.filter (· != .operations)) = some r → FreshAt c w r)
    (hu : w.findObs .remainingOps (o.fts.filter (· != .operations)) = none → UFresh c w) :
    Mod (Q0 c) w (w.isCompletedInit id) ∧ FreshAt c (w.isCompletedInit id) id := by
  obtain rfl := hj.cfg
  have hnd := (hj.shape _ _ ho (by rw [hk]; rfl)).wf.nodup
  have hz := zeroed_shaped w.cfg.I o hnd
  have m1 : Mod (QX w.cfg (· = id)) w (w.setObs id (o.zeroed w.cfg.I)) :=
    mod_setObs _ w id _ fun o0 h0 => by
      rw [ho] at h0; cases h0
      exact ⟨rfl, fun _ => rfl, ⟨fun _ => hz, fun h => by rw [zeroed_kind, hk] at h; cases h⟩, fun h => absurd rfl h⟩
  have j1 := hj.ext m1
  have hfo := findObs_setObs ho (o' := o.zeroed w.cfg.I) rfl rfl .remainingOps (o.fts.filter (· != .operations))
  obtain ⟨m2, fr2⟩ := getRemaining_mod j1 ((o.zeroed w.cfg.I).fts.filter (· != .operations)) (hnd.filter _) (· = id)
    (fun hn _ => (hu (hfo ▸ hn)).setObs id _ (by rw [zeroed_kind, hk]; simp))
  have f2 := getRemaining_found j1.subs ((o.zeroed w.cfg.I).fts.filter (· != .operations))
  generalize hg : (w.setObs id (o.zeroed w.cfg.I)).getRemaining ((o.zeroed w.cfg.I).fts.filter (· != .operations)) = r2
    at m2 f2 fr2
  obtain ⟨w2, rid⟩ := r2
  simp only at m2 f2 fr2
  obtain ⟨_, r, hr2, hkr, hneed⟩ := findObs_subAt f2
  obtain ⟨g2, e⟩ := isCompletedInit_eq ho (w2, rid) hg.symm hr2
  rw [e]
  have hne : rid ≠ id := by
    intro e; subst e
    rw [g2] at hr2; cases hr2
    rw [zeroed_kind, hk] at hkr; cases hkr
  have hrf : ObsVal w.cfg (init w.cfg.I) r :=
    fr2 hne (fun r0 h0 => (hr r0 (hfo ▸ h0)).ext m1 (fun e => by
      obtain ⟨_, x, hx, hkx, _⟩ := findObs_subAt (hfo ▸ h0)
      subst e
      rw [ho] at hx; cases hx
      rw [hk] at hkx; cases hkx)) r hr2
  obtain ⟨m3, f3⟩ := setObs_freshKeeps (· = id) g2 (o' := icFinal w.cfg.I (r.col .jobs) (r.col .machines) o)
    (fresh_isCompleted w.cfg (o := o.zeroed w.cfg.I) hk hnd _ _
      (fun hft => hrf.remJobs hkr (hneed _ (List.mem_filter.2 ⟨hft, by decide⟩)))
      (fun hft => hrf.remMach hkr (Or.inr rfl) (hneed _ (List.mem_filter.2 ⟨hft, by decide⟩))))
  exact ⟨(m1.trans (m2.trans m3)).fresh (fun _ h => Or.inr h) (fun _ => f3), f3⟩

theorem callReset_mod {c : Cfg} {w : FWorld} (hj : J c w) {id : Nat} (hid : id ∈ w.subs) :
    Mod (Q0 c) w (w.callReset id) ∧ FreshAt c (w.callReset id) id := by
  cases h0 : w.heap[id]? with
  | none => rw [callReset_none h0]; exact ⟨Mod.refl _ w, fun o ho => by rw [h0] at ho; cases ho⟩
  | some o =>
    have hsh : o.kind.single = true → o.Shaped c.I := hj.shape _ _ h0
    cases ht : o.kind.tunable with
    | false =>
      rw [callReset_own h0 ht]
      have hk := resetOwn_kind w o
      have hns : ¬ o.kind.single = true := fun h => by rw [single_tunable h] at ht; cases ht
      exact setObs_fresh _ h0 hk (fun h => absurd h hns) (obsVal_plain (hk ▸ ht)) (fun h => absurd (hk ▸ h) hns)
    | true =>
      unfold FWorld.callReset
      simp only [h0]
      rw [hj.cfg, hj.s]
      split
      · rename_i hk
        have hs := hsh (by rw [hk]; rfl)
        exact setObs_freshKeeps _ h0 ⟨keeps_isReadyFeatures c (init c.I) hs, obsVal_isReadyFeatures c _ hk hs⟩
      · rename_i hk
        exact setObs_freshKeeps _ h0 (fresh_est c _ hk (hsh (by rw [hk]; rfl)) (hj.est id hid o h0 hk))
      · rename_i hk
        exact setObs_freshKeeps _ h0 (fresh_duration c _ hk (hsh (by rw [hk]; rfl)).wf.nodup)
      · rename_i hk
        exact setObs_freshKeeps _ h0 (fresh_isScheduled c hk (hsh (by rw [hk]; rfl)).wf.nodup)
      · rename_i hk
        exact setObs_freshKeeps _ h0 (fresh_position c hk (hsh (by rw [hk]; rfl)).wf.nodup)
      · rename_i hk
        exact resetRemaining_mod hj h0 hk
      · -- the remaining-operations helper is obtained and reset first, so `initialize_features` finds it correct
        rename_i hk
        have hs : o.kind.single = true := by rw [hk]; rfl
        obtain ⟨m1, _⟩ := getRemaining_mod hj _ ((hsh hs).wf.nodup.filter _)
          (· = (w.getRemaining (o.fts.filter (· != .operations))).2) (fun hn hne => absurd (by
            unfold FWorld.getRemaining; rw [hn]; rfl) hne)
        have f1 := getRemaining_found hj.subs (o.fts.filter (· != .operations))
        generalize w.getRemaining (o.fts.filter (· != .operations)) = r1 at m1 f1
        obtain ⟨w1, rid⟩ := r1
        simp only at m1 f1 ⊢
        have j1 : J c w1 := hj.ext m1
        obtain ⟨_, r, hr, hkr, _⟩ := findObs_subAt f1
        obtain ⟨m2, fr2⟩ := resetRemaining_mod j1 hr hkr
        have j2 : J c (w1.resetRemaining rid) := j1.ext m2
        have f2 := findObs_mod m2 j1.subs rfl f1
        obtain ⟨o1, ho1, hk1, hf1⟩ := m1.keep id o h0
        obtain ⟨o2, ho2, hk2, hf2⟩ := m2.keep id o1 ho1
        have hfts2 : o2.fts = o.fts := (hf2 (hk1 ▸ hs)).trans (hf1 hs)
        obtain ⟨m3, fr3⟩ := isCompletedInit_mod j2 ho2 (hk2.trans (hk1.trans hk))
          (fun r0 h0 => by rw [hfts2, f2] at h0; cases h0; exact fr2)
          (fun hn => by rw [hfts2, f2] at hn; cases hn)
        exact ⟨(m1.trans ((m2.trans m3).mono fun _ _ _ h => qx_weaken _ h)).fresh (fun _ h => Or.inr h)
          (fun _ => fr2.ext m3 (fun hf => hf)), fr3⟩
      · rename_i hk
        rw [hk] at ht; cases ht
      · rename_i hk
        exact setObs_unscheduled _ h0 hk
      all_goals (rename_i hk; rw [hk] at ht; cases ht)

theorem fold_callReset {c : Cfg} : ∀ (l : List Nat) (w : FWorld), J c w → (∀ id ∈ l, id ∈ w.subs) →
    Mod (Q0 c) w (l.foldl (fun w id => w.callReset id) w) ∧
    ∀ id ∈ l, FreshAt c (l.foldl (fun w id => w.callReset id) w) id
  | [], w, _, _ => ⟨Mod.refl _ w, fun _ h => by cases h⟩
  | a :: t, w, hj, hsub => by
    simp only [List.foldl_cons]
    obtain ⟨m1, fr1⟩ := callReset_mod hj (hsub a (List.mem_cons_self ..))
    have j1 : J c (w.callReset a) := hj.ext m1
    obtain ⟨m2, fr2⟩ := fold_callReset t (w.callReset a) j1
      (fun id hid => good_mem m1.good (hsub id (List.mem_cons_of_mem _ hid)))
    refine ⟨m1.trans m2, ?_⟩
    intro id hid
    rcases List.mem_cons.1 hid with rfl | hid
    · exact fr1.ext m2 (fun hf => hf)
    · exact fr2 id hid

end FWReset

set_option linter.unusedVariables false in
open FWReset in
theorem finv_reset {w : FWorld} (hv : Valid w.cfg.I) (h : FInv w) : FInv w.reset ∧ w.reset.s = init w.cfg.I := by
  have hj := J.of_finv h
  obtain ⟨m, fr⟩ := fold_callReset w.subs { w with s := JS.init w.cfg.I } hj (fun _ hid => hid)
  refine ⟨(hj.ext m).finv fun id hid => ?_, (hj.ext m).s⟩
  rcases m.newsubs id hid with h1 | h1
  · exact fr id h1
  · exact fun o ho => (m.new id o h1 ho).2 (fun hf => hf)

end JS
