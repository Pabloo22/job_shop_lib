import JobShopProofs.Properties.C18
import JobShopProofs.GraphEdges
import JobShopProofs.Properties.C19
/-!
# C18, multi-instance environment: classic generators fit the declared spaces

For generators without recirculation and with one machine per operation every generated instance is "rectangular"
(`Rect I J M`: `J` jobs, each visiting each of `M` machines exactly once).  For rectangular instances the node and edge
counts of the four graph builders are closed forms in `(J, M)` that are monotone, the feature matrices' row counts are
monotone, and the construction of the single environment succeeds or fails independently of the instance.  Hence every
`reset` / `step` of the multi environment pads successfully and returns an observation of the declared space
(`C18_multi_fits_classic`).
-/
namespace JS

/-- generators without recirculation and with exactly one machine per operation -/
def Classic (p : GenParams) : Prop := p.allowRecirc = false ∧ p.mpo = (1, 1)

namespace MF

theorem length_bothDir (L : List (Nat × Nat)) : (bothDir L).length = 2 * L.length := by
  induction L with
  | nil => rfl
  | cons a t ih =>
    simp only [bothDir, List.flatMap_cons, List.length_append, List.length_cons, List.length_nil] at ih ⊢
    omega

theorem length_pairs {α} (l : List α) : 2 * (pairs l).length = l.length * (l.length - 1) := by
  induction l with
  | nil => rfl
  | cons a t ih =>
    have h2 := Nat.le_mul_self t.length
    rw [Nat.mul_sub_one] at ih
    rw [pairs, List.length_append, List.length_map, List.length_cons, Nat.add_sub_cancel, Nat.add_mul, Nat.one_mul]
    omega

theorem length_bothDir_pairs (l : List Nat) : (bothDir (pairs l)).length = l.length * (l.length - 1) := by
  rw [length_bothDir, length_pairs]

theorem pairs_lt : ∀ (l : List Nat), l.Pairwise (· < ·) → ∀ ab ∈ pairs l, ab.1 < ab.2
  | [], _, ab, h => by simp [pairs] at h
  | x :: t, hp, ab, h => by
    rw [List.pairwise_cons] at hp
    obtain ⟨a, b⟩ := ab
    rcases (mem_pairs_cons x t a b).1 h with ⟨rfl, hb⟩ | h
    · exact hp.1 b hb
    · exact pairs_lt t hp.2 (a, b) h

theorem pairs_nodup {α} : ∀ (l : List α), l.Nodup → (pairs l).Nodup
  | [], _ => by simp [pairs]
  | x :: t, hn => by
    rw [List.nodup_cons] at hn
    simp only [pairs]
    rw [List.nodup_append]
    refine ⟨?_, pairs_nodup t hn.2, ?_⟩
    · exact List.Pairwise.map _ (fun a b hab e => hab (by cases e; rfl)) hn.2
    · intro p hp q hq e
      subst e
      obtain ⟨b, _, rfl⟩ := List.mem_map.1 hp
      exact hn.1 ((mem_pairs_sym t hn.2 x b).1 (Or.inl hq)).1

theorem nodup_bothDir (R : Nat → Nat → Prop) (hasym : ∀ a b, R a b → ¬ R b a) :
    ∀ (L : List (Nat × Nat)), (∀ ab ∈ L, R ab.1 ab.2) → L.Nodup → (bothDir L).Nodup
  | [], _, _ => by simp [bothDir]
  | (a, b) :: L, hR, hnd => by
    rw [List.nodup_cons] at hnd
    have ih := nodup_bothDir R hasym L (fun ab h => hR ab (by simp [h])) hnd.2
    have hab : R a b := hR (a, b) (by simp)
    have hne : a ≠ b := fun e => hasym a b hab (e ▸ hab)
    show ((a, b) :: (b, a) :: bothDir L).Nodup
    rw [List.nodup_cons, List.nodup_cons]
    refine ⟨?_, ?_, ih⟩
    · rw [List.mem_cons, mem_bothDir]
      rintro (e | h | h)
      · exact hne (congrArg Prod.fst e)
      · exact hnd.1 h
      · exact hasym a b hab (hR (b, a) (by simp [h]))
    · rw [mem_bothDir]
      rintro (h | h)
      · exact hasym a b hab (hR (b, a) (by simp [h]))
      · exact hnd.1 h

theorem nodup_flatMap_range {β} (K : Nat) (f : Nat → List β) (h1 : ∀ m, m < K → (f m).Nodup)
    (h2 : ∀ m m', m < K → m' < K → ∀ x, x ∈ f m → x ∈ f m' → m = m') : ((List.range K).flatMap f).Nodup := by
  unfold List.Nodup
  rw [List.pairwise_flatMap]
  refine ⟨fun m hm => h1 m (List.mem_range.1 hm), ?_⟩
  have hr : (List.range K).Pairwise (fun a b => a ≠ b ∧ a < K ∧ b < K) := by
    have h0 : (List.range K).Pairwise (fun a b => a ≠ b) := List.nodup_range
    exact List.Pairwise.imp_of_mem (fun ha hb hab => ⟨hab, List.mem_range.1 ha, List.mem_range.1 hb⟩) h0
  apply List.Pairwise.imp _ hr
  intro a b ⟨hab, ha, hb⟩ x hx y hy e
  subst e
  exact hab (h2 a b ha hb x hx hy)

theorem sum_map_const {α} (l : List α) (g : α → Nat) (c : Nat) (h : ∀ x ∈ l, g x = c) :
    (l.map g).sum = l.length * c := by
  induction l with
  | nil => simp
  | cons a t ih =>
    simp only [List.map_cons, List.sum_cons, List.length_cons]
    rw [ih (fun x hx => h x (by simp [hx])), h a (by simp), Nat.add_mul]
    omega

theorem length_flatMap_range_const {β} (K : Nat) (f : Nat → List β) (c : Nat) (h : ∀ m, m < K → (f m).length = c) :
    ((List.range K).flatMap f).length = K * c := by
  rw [List.length_flatMap, sum_map_const _ _ c (fun x hx => h x (List.mem_range.1 hx)), List.length_range]

theorem mem_star (c : Nat) (l : List Nat) (u v : Nat) :
    (u, v) ∈ bothDir (l.map fun o => (c, o)) ↔ (u = c ∧ v ∈ l) ∨ (v = c ∧ u ∈ l) := by
  simp only [mem_bothDir, List.mem_map, Prod.mk.injEq]
  constructor
  · rintro (⟨o, ho, rfl, rfl⟩ | ⟨o, ho, rfl, rfl⟩)
    · exact Or.inl ⟨rfl, ho⟩
    · exact Or.inr ⟨rfl, ho⟩
  · rintro (⟨rfl, h⟩ | ⟨rfl, h⟩)
    · exact Or.inl ⟨v, h, rfl, rfl⟩
    · exact Or.inr ⟨u, h, rfl, rfl⟩

theorem nodup_star (c : Nat) (l : List Nat) (hnd : l.Nodup) (hlt : ∀ o ∈ l, o < c) :
    (bothDir (l.map fun o => (c, o))).Nodup := by
  apply nodup_bothDir (fun a b => b < a) (fun a b h1 h2 => by omega)
  · intro ab hab
    obtain ⟨o, ho, rfl⟩ := List.mem_map.1 hab
    exact hlt o ho
  · exact List.Pairwise.map _ (fun a b hab e => hab (by cases e; rfl)) hnd

theorem length_star (c : Nat) (l : List Nat) : (bothDir (l.map fun o => (c, o))).length = 2 * l.length := by
  rw [length_bothDir, List.length_map]

theorem nodup_flatMap_star (K : Nat) (c : Nat → Nat) (leaf : Nat → List Nat) (B : Nat)
    (hc : ∀ m, m < K → B ≤ c m) (hinj : ∀ m m', c m = c m' → m = m')
    (hl : ∀ m, m < K → ∀ o ∈ leaf m, o < B) (hnd : ∀ m, m < K → (leaf m).Nodup) :
    ((List.range K).flatMap fun m => bothDir ((leaf m).map fun o => (c m, o))).Nodup := by
  apply nodup_flatMap_range
  · intro m hm
    exact nodup_star _ _ (hnd m hm) (fun o ho => by have := hl m hm o ho; have := hc m hm; omega)
  · intro m m' hm hm' x hx hx'
    obtain ⟨u, v⟩ := x
    rw [mem_star] at hx hx'
    rcases hx with ⟨rfl, h1⟩ | ⟨rfl, h1⟩ <;> rcases hx' with ⟨e, h2⟩ | ⟨e, h2⟩
    · exact hinj _ _ e
    · have := hl m hm _ h1; have := hl m' hm' _ h2; have := hc m hm; have := hc m' hm'; omega
    · have := hl m hm _ h1; have := hl m' hm' _ h2; have := hc m hm; have := hc m' hm'; omega
    · exact hinj _ _ e

theorem nodup_clique (l : List Nat) (hs : l.Pairwise (· < ·)) : (bothDir (pairs l)).Nodup :=
  nodup_bothDir (· < ·) (fun a b h1 h2 => by omega) (pairs l) (pairs_lt l hs)
    (pairs_nodup l (List.Pairwise.imp (fun h => Nat.ne_of_lt h) hs))

theorem nodup_flatMap_clique (K : Nat) (mem : Nat → List Nat) (hs : ∀ m, m < K → (mem m).Pairwise (· < ·))
    (hdisj : ∀ m m', m < K → m' < K → ∀ u, u ∈ mem m → u ∈ mem m' → m = m') :
    ((List.range K).flatMap fun m => bothDir (pairs (mem m))).Nodup := by
  apply nodup_flatMap_range
  · intro m hm; exact nodup_clique _ (hs m hm)
  · intro m m' hm hm' x hx hx'
    obtain ⟨u, v⟩ := x
    have hnd : ∀ m, m < K → (mem m).Nodup := fun m hm => (hs m hm).imp Nat.ne_of_lt
    exact hdisj m m' hm hm' u ((mem_bothDir_pairs _ (hnd m hm) u v).1 hx).1 ((mem_bothDir_pairs _ (hnd m' hm') u v).1 hx').1

theorem sorted_offset (c N : Nat) : ((List.range N).map fun k => c + k).Pairwise (· < ·) := by
  rw [List.pairwise_map]
  exact List.Pairwise.imp (fun h => by omega) List.pairwise_lt_range

theorem nbm_lt {I : Instance} {m u : Nat} (h : u ∈ nodesByMachine I m) : u < numOps I := by
  obtain ⟨r, hr, _, rfl⟩ := (mem_nodesByMachine I m u).1 h
  exact opId_lt hr

theorem nbj_lt {I : Instance} {j u : Nat} (hj : j < I.length) (h : u ∈ nodesByJob I j) : u < numOps I := by
  obtain ⟨p, hp, rfl⟩ := (mem_nodesByJob I j u hj).1 h
  exact opId_lt hp

theorem nbm_sorted (I : Instance) (m : Nat) : (nodesByMachine I m).Pairwise (· < ·) := by
  rw [nodesByMachine_eq]
  have h : List.Sublist (((allOps I).filter (onMachine I m)).map (opId I)) ((allOps I).map (opId I)) :=
    List.Sublist.map _ List.filter_sublist
  rw [C14_ids] at h
  exact List.Pairwise.sublist h List.pairwise_lt_range

theorem nbj_sorted (I : Instance) (j : Nat) : (nodesByJob I j).Pairwise (· < ·) := by
  rw [nodesByJob_eq, List.pairwise_map]
  exact List.Pairwise.imp (fun h => by simp only [opId]; omega) List.pairwise_lt_range

theorem length_nbj (I : Instance) (j : Nat) : (nodesByJob I j).length = (I.getD j []).length := by
  rw [nodesByJob_eq, List.length_map, List.length_range]

theorem nbj_disjoint {I : Instance} {j j' u : Nat} (hj : j < I.length) (hj' : j' < I.length)
    (h : u ∈ nodesByJob I j) (h' : u ∈ nodesByJob I j') : j = j' := by
  obtain ⟨p, hp, rfl⟩ := (mem_nodesByJob I j u hj).1 h
  obtain ⟨p', hp', e⟩ := (mem_nodesByJob I j' _ hj').1 h'
  exact congrArg Prod.fst (opId_inj hp hp' e)

theorem opMachList_nodup (I : Instance) : (opMachList I).Nodup :=
  nodup_flatMap_star _ (fun m => numOps I + m) (nodesByMachine I) (numOps I) (fun m _ => by omega)
    (fun m m' e => by omega) (fun m _ o ho => nbm_lt ho) (fun m _ => nodesByMachine_nodup I m)

theorem opJobList_nodup (I : Instance) : (opJobList I).Nodup :=
  nodup_flatMap_star _ (fun j => numOps I + numMachines I + j) (nodesByJob I) (numOps I) (fun m _ => by omega)
    (fun m m' e => by omega) (fun j hj o ho => nbj_lt hj ho) (fun j _ => nodesByJob_nodup I j)

theorem machMachList_nodup (I : Instance) : (machMachList I).Nodup := nodup_clique _ (sorted_offset _ _)

theorem jobJobList_nodup (I : Instance) : (jobJobList I).Nodup := nodup_clique _ (sorted_offset _ _)

theorem sameJobList_nodup (I : Instance) : (sameJobList I).Nodup :=
  nodup_flatMap_clique _ (nodesByJob I) (fun j _ => nbj_sorted I j) (fun _ _ hj hj' _ h h' => nbj_disjoint hj hj' h h')

theorem length_machMachList (I : Instance) : (machMachList I).length = numMachines I * (numMachines I - 1) := by
  unfold machMachList
  rw [length_bothDir_pairs, List.length_map, List.length_range]

theorem length_jobJobList (I : Instance) : (jobJobList I).length = I.length * (I.length - 1) := by
  unfold jobJobList
  rw [length_bothDir_pairs, List.length_map, List.length_range]

theorem globalList_eq (I : Instance) : globalList I =
    bothDir (((List.range (numMachines I + I.length)).map fun i => numOps I + i).map
      fun o => (numOps I + numMachines I + I.length, o)) := by
  unfold globalList bothDir
  rw [List.range_add, List.map_append, List.map_append, List.flatMap_append]
  simp only [List.map_map, Function.comp_def, Nat.add_assoc]

theorem globalList_nodup (I : Instance) : (globalList I).Nodup := by
  rw [globalList_eq]
  refine nodup_star _ _ (List.Pairwise.imp (fun h => Nat.ne_of_lt h) (sorted_offset _ _)) fun o ho => ?_
  obtain ⟨i, hi, rfl⟩ := List.mem_map.1 ho
  have := List.mem_range.1 hi
  omega

theorem length_globalList (I : Instance) : (globalList I).length = 2 * numMachines I + 2 * I.length := by
  rw [globalList_eq, length_star, List.length_map, List.length_range, Nat.mul_add]

theorem nodup_zip_left {α β} : ∀ (l : List α) (l' : List β), l.Nodup → (l.zip l').Nodup
  | [], _, _ => by simp
  | _ :: _, [], _ => by simp
  | a :: t, b :: t', h => by
    rw [List.nodup_cons] at h
    rw [List.zip_cons_cons, List.nodup_cons]
    exact ⟨fun hm => h.1 (List.of_mem_zip hm).1, nodup_zip_left t t' h.2⟩

theorem conjList_nodup (I : Instance) : (conjList I).Nodup := by
  unfold conjList
  apply nodup_flatMap_range
  · intro j _; exact nodup_zip_left _ _ (nodesByJob_nodup I j)
  · intro j j' hj hj' x hx hx'
    obtain ⟨u, v⟩ := x
    exact nbj_disjoint hj hj' (List.of_mem_zip hx).1 (List.of_mem_zip hx').1

theorem ssList_eq (I : Instance) (n : Nat) : ssList I n = (List.range I.length).flatMap fun j =>
    if (I.getD j []).length = 0 then []
    else [(n, opId I (j, 0)), (opId I (j, (I.getD j []).length - 1), n + 1)] := by
  simp only [ssList, ssStep_eq]

theorem mem_ssBlock {I : Instance} {n j : Nat} {x : Nat × Nat} (hj : j < I.length)
    (h : x ∈ if (I.getD j []).length = 0 then []
      else [(n, opId I (j, 0)), (opId I (j, (I.getD j []).length - 1), n + 1)]) :
    ∃ p, (j, p) ∈ allOps I ∧ (x = (n, opId I (j, p)) ∨ x = (opId I (j, p), n + 1)) := by
  split at h
  · cases h
  next hl =>
    rcases List.mem_cons.1 h with rfl | h
    · exact ⟨0, (mem_allOps_iff I j 0).2 ⟨hj, Nat.pos_of_ne_zero hl⟩, Or.inl rfl⟩
    · exact ⟨_, (mem_allOps_iff I j _).2 ⟨hj, Nat.sub_one_lt hl⟩, Or.inr (List.mem_singleton.1 h)⟩

theorem ssList_nodup (I : Instance) : (ssList I (numOps I)).Nodup := by
  rw [ssList_eq]
  apply nodup_flatMap_range
  · intro j hj
    split
    · exact List.nodup_nil
    next hl =>
      have := opId_lt ((mem_allOps_iff I j _).2 ⟨hj, Nat.sub_one_lt hl⟩)
      exact List.nodup_cons.2 ⟨fun h => by have := congrArg Prod.fst (List.mem_singleton.1 h); omega, List.pairwise_singleton _ _⟩
  · intro j j' hj hj' x hx hx'
    obtain ⟨p, hp, e⟩ := mem_ssBlock hj hx
    obtain ⟨p', hp', e'⟩ := mem_ssBlock hj' hx'
    have := opId_lt hp
    have := opId_lt hp'
    rcases e with rfl | rfl <;> rcases e' with e' | e'
    · exact congrArg Prod.fst (opId_inj hp hp' (congrArg Prod.snd e'))
    · exact absurd (congrArg Prod.fst e') (by omega)
    · exact absurd (congrArg Prod.fst e') (by omega)
    · exact congrArg Prod.fst (opId_inj hp hp' (congrArg Prod.fst e'))

/-- `J` jobs; every operation has exactly one machine; every job visits each of the machines `0 … M-1` exactly once -/
structure Rect (I : Instance) (J M : Nat) : Prop where
  len : I.length = J
  single : ∀ job ∈ I, ∀ op ∈ job, op.machines.length = 1
  perm : ∀ job ∈ I, (job.map fun op => op.machines.headD 0).Perm (List.range M)

theorem single_eq {op : Op} (h : op.machines.length = 1) : op.machines = [op.machines.headD 0] :=
  match op.machines, h with
  | [_], _ => rfl

theorem getD_mem {I : Instance} {j : Nat} (hj : j < I.length) : I.getD j [] ∈ I := by
  rw [List.getD_eq_getElem?_getD, List.getElem?_eq_getElem hj]
  exact List.getElem_mem _

theorem getOp_eq_getD {I : Instance} {j : Nat} (p : Nat) (hj : j < I.length) : getOp I j p = (I.getD j [])[p]? := by
  simp [getOp, List.getD_eq_getElem?_getD, List.getElem?_eq_getElem hj]

theorem Rect.jobLen {I : Instance} {J M : Nat} (h : Rect I J M) {job : List Op} (hj : job ∈ I) : job.length = M := by
  have := (h.perm job hj).length_eq
  simpa using this

theorem Rect.getD_len {I : Instance} {J M : Nat} (h : Rect I J M) {j : Nat} (hj : j < I.length) :
    (I.getD j []).length = M := h.jobLen (getD_mem hj)

theorem Rect.numOps_eq {I : Instance} {J M : Nat} (h : Rect I J M) : numOps I = J * M := by
  unfold numOps
  rw [sum_map_const I List.length M (fun job hj => h.jobLen hj), h.len]

theorem Rect.mach_lt {I : Instance} {J M : Nat} (h : Rect I J M) {job : List Op} (hj : job ∈ I) {op : Op} (ho : op ∈ job) :
    op.machines.headD 0 < M := by
  have : op.machines.headD 0 ∈ job.map fun op => op.machines.headD 0 := List.mem_map.2 ⟨op, ho, rfl⟩
  exact List.mem_range.1 ((h.perm job hj).mem_iff.1 this)

theorem foldl_max_le {α} (f : α → Nat) (B : Nat) : ∀ (l : List α) (a : Nat), a ≤ B → (∀ x ∈ l, f x ≤ B) →
    l.foldl (fun b x => max b (f x)) a ≤ B
  | [], a, ha, _ => ha
  | x :: t, a, ha, h => by
    simp only [List.foldl_cons]
    exact foldl_max_le f B t _ (by have := h x (by simp); omega) (fun y hy => h y (by simp [hy]))

theorem Rect.numMachines_le {I : Instance} {J M : Nat} (h : Rect I J M) : numMachines I ≤ M :=
  foldl_max_le jobMax M I 0 (Nat.zero_le _) fun job hj =>
    foldl_max_le opMax M job 0 (Nat.zero_le _) fun op ho =>
      foldl_max_le (fun m => m + 1) M op.machines 0 (Nat.zero_le _) fun m hm => by
        rw [single_eq (h.single job hj op ho), List.mem_singleton] at hm
        exact hm ▸ h.mach_lt hj ho
theorem Rect.numMachines_ge {I : Instance} {J M : Nat} (h : Rect I J M) (hJ : 0 < J) : M ≤ numMachines I := by
  cases M with
  | zero => exact Nat.zero_le _
  | succ M =>
    have hjob := getD_mem (j := 0) (h.len ▸ hJ)
    obtain ⟨op, ho, he⟩ := List.mem_map.1 ((h.perm _ hjob).mem_iff.2 (List.mem_range.2 (Nat.lt_succ_self M)))
    have hm : M ∈ op.machines := by rw [single_eq (h.single _ hjob op ho), he]; exact List.mem_singleton_self _
    exact Nat.le_trans (foldl_max_mem (fun m => m + 1) op.machines 0 M hm)
      (Nat.le_trans (foldl_max_mem opMax _ 0 op ho) (foldl_max_mem jobMax I 0 _ hjob))

/-- the number of machines of a rectangular instance -/
def kOf (J M : Nat) : Nat := if J = 0 then 0 else M

theorem Rect.numMachines_eq {I : Instance} {J M : Nat} (h : Rect I J M) : numMachines I = kOf J M := by
  unfold kOf
  by_cases hJ : J = 0
  · rw [if_pos hJ]
    have : I = [] := List.eq_nil_of_length_eq_zero (by rw [h.len]; exact hJ)
    subst this; rfl
  · rw [if_neg hJ]
    exact Nat.le_antisymm h.numMachines_le (h.numMachines_ge (Nat.pos_of_ne_zero hJ))

theorem kOf_le (J M : Nat) : kOf J M ≤ M := by unfold kOf; split <;> omega

theorem kOf_mono {J M J' M' : Nat} (hJ : J ≤ J') (hM : M ≤ M') : kOf J M ≤ kOf J' M' := by
  unfold kOf
  split
  · exact Nat.zero_le _
  · rw [if_neg (by omega)]; exact hM

theorem length_filter_range {α} (P : α → Bool) : ∀ (l : List α),
    ((List.range l.length).filter fun i => (l[i]?.map P).getD false).length = (l.filter P).length
  | [] => rfl
  | a :: t => by
    have ih := length_filter_range P t
    rw [List.length_cons, List.range_succ_eq_map, List.filter_cons, List.filter_map, List.filter_cons]
    have hcomp : ((fun i => ((a :: t)[i]?.map P).getD false) ∘ Nat.succ) = fun i => (t[i]?.map P).getD false := by
      funext i; simp [Function.comp]
    rw [hcomp]
    simp only [List.getElem?_cons_zero, Option.map_some, Option.getD_some]
    by_cases hp : P a = true
    · simp only [hp, ↓reduceIte, List.length_cons, List.length_map, ih]
    · simp only [hp, Bool.false_eq_true, ↓reduceIte, List.length_map, ih]

theorem onMachine_single {I : Instance} {j p m : Nat} (hj : j < I.length) {op : Op} (hop : (I.getD j [])[p]? = some op)
    (hs : op.machines.length = 1) : onMachine I m (j, p) = true ↔ op.machines.headD 0 = m := by
  unfold onMachine
  simp only
  rw [getOp_eq_getD p hj, hop]
  simp only
  rw [single_eq hs]
  simp [eq_comm]

theorem Rect.length_nbm {I : Instance} {J M : Nat} (h : Rect I J M) {m : Nat} (hm : m < M) :
    (nodesByMachine I m).length = J := by
  rw [nodesByMachine_eq, List.length_map]
  unfold allOps
  rw [List.filter_flatMap, length_flatMap_range_const _ _ 1, h.len, Nat.mul_one]
  intro j hj
  rw [List.filter_map, List.length_map]
  have hfun : (onMachine I m ∘ fun p => (j, p)) =
      fun p => ((I.getD j [])[p]?.map fun op : Op => op.machines.contains m).getD false := by
    funext p
    simp only [Function.comp, onMachine]
    rw [getOp_eq_getD p hj]
    cases (I.getD j [])[p]? <;> rfl
  rw [hfun, length_filter_range (fun op : Op => op.machines.contains m)]
  have hjob := getD_mem hj
  rw [← List.countP_eq_length_filter]
  have hc : List.countP (fun op : Op => op.machines.contains m) (I.getD j []) =
      List.count m ((I.getD j []).map fun op => op.machines.headD 0) := by
    rw [List.count, List.countP_map]
    apply List.countP_congr
    intro op hop
    rw [single_eq (h.single _ hjob op hop)]
    simp only [List.contains_iff_mem, List.mem_singleton, Function.comp, beq_iff_eq]
    exact eq_comm
  rw [hc, (h.perm _ hjob).count_eq, List.nodup_range.count]
  simp [hm]

theorem Rect.share_same_job {I : Instance} {J M : Nat} (h : Rect I J M) {a b : OpRef} (ha : a ∈ allOps I) (hb : b ∈ allOps I)
    (hj : a.1 = b.1) (hs : ShareMachine I a b) : a = b := by
  obtain ⟨j, p⟩ := a
  obtain ⟨j', q⟩ := b
  simp only at hj; subst hj
  obtain ⟨hjl, hp⟩ := (mem_allOps_iff I j p).1 ha
  obtain ⟨_, hq⟩ := (mem_allOps_iff I j q).1 hb
  have hjob := getD_mem hjl
  obtain ⟨m, h1, h2⟩ := hs
  have e1 := (onMachine_single hjl (List.getElem?_eq_getElem hp) (h.single _ hjob _ (List.getElem_mem _))).1 h1
  have e2 := (onMachine_single hjl (List.getElem?_eq_getElem hq) (h.single _ hjob _ (List.getElem_mem _))).1 h2
  have hnd : ((I.getD j []).map fun op => op.machines.headD 0).Nodup := (h.perm _ hjob).nodup_iff.2 List.nodup_range
  have hpl : p < ((I.getD j []).map fun op => op.machines.headD 0).length := by simpa using hp
  have : ((I.getD j []).map fun op => op.machines.headD 0)[p]? = ((I.getD j []).map fun op => op.machines.headD 0)[q]? := by
    simp only [List.getElem?_map, List.getElem?_eq_getElem hp, List.getElem?_eq_getElem hq, Option.map_some, e1, e2]
  rw [(List.getElem?_inj hpl hnd).1 this]

theorem Rect.onMachine_unique {I : Instance} {J M : Nat} (h : Rect I J M) {r : OpRef} (hr : r ∈ allOps I) {m m' : Nat}
    (h1 : onMachine I m r = true) (h2 : onMachine I m' r = true) : m = m' := by
  obtain ⟨j, p⟩ := r
  obtain ⟨hjl, hp⟩ := (mem_allOps_iff I j p).1 hr
  have hjob := getD_mem hjl
  have e1 := (onMachine_single hjl (List.getElem?_eq_getElem hp) (h.single _ hjob _ (List.getElem_mem _))).1 h1
  have e2 := (onMachine_single hjl (List.getElem?_eq_getElem hp) (h.single _ hjob _ (List.getElem_mem _))).1 h2
  omega

theorem Rect.disjList_nodup {I : Instance} {J M : Nat} (h : Rect I J M) : (disjList I).Nodup := by
  unfold disjList
  apply nodup_flatMap_clique _ (nodesByMachine I) (fun m _ => nbm_sorted I m)
  intro m m' _ _ u hu hu'
  obtain ⟨r, hr, hm, rfl⟩ := (mem_nodesByMachine I m u).1 hu
  obtain ⟨r', hr', hm', e⟩ := (mem_nodesByMachine I m' _).1 hu'
  have := opId_inj hr hr' e
  subst this
  exact h.onMachine_unique hr hm hm'

theorem stage_count {g : Graph} {ns : List NodeKind} {S : Nat → Nat → EType → Prop} (h : Stage g ns S)
    (L : List (Nat × Nat)) (hnd : L.Nodup) (hmem : ∀ u v, (u, v) ∈ L ↔ ∃ t, S u v t) :
    g.edges.length = L.length := by
  have hp : (g.edges.map fun e => (e.1, e.2.1)).Perm L := by
    rw [List.perm_ext_iff_of_nodup (stage_edges_nodup h) hnd]
    rintro ⟨u, v⟩
    rw [hmem]
    constructor
    · intro hx
      obtain ⟨e, he, heq⟩ := List.mem_map.1 hx
      obtain ⟨_, _, t⟩ := e
      simp only [Prod.mk.injEq] at heq
      obtain ⟨rfl, rfl⟩ := heq
      exact ⟨t, (stage_edges h _ _ t).1 he⟩
    · rintro ⟨t, ht⟩
      exact List.mem_map.2 ⟨(u, v, t), (stage_edges h u v t).2 ht, rfl⟩
  have := hp.length_eq
  rwa [List.length_map] at this

theorem nodup_app {α} {A B : List α} (hA : A.Nodup) (hB : B.Nodup) (hd : ∀ x ∈ A, x ∉ B) : (A ++ B).Nodup :=
  List.nodup_append.2 ⟨hA, hB, fun a ha _ hb e => hd a ha (e ▸ hb)⟩

theorem disj_of_cls {A B : List (Nat × Nat)} {P Q : Nat → Nat → Prop} (hA : ∀ {u v}, (u, v) ∈ A → P u v)
    (hB : ∀ {u v}, (u, v) ∈ B → Q u v) (hPQ : ∀ u v, P u v → Q u v → False) : ∀ x ∈ A, x ∉ B :=
  fun x h1 h2 => hPQ x.1 x.2 (hA h1) (hB h2)

/-! Which blocks of node ids (operations, machines, jobs, the global node) the two ends of a pair of each phase lie in:
as much as tells the phases of one builder apart. -/

theorem opMach_cls {I : Instance} {u v : Nat} (h : (u, v) ∈ opMachList I) :
    (u < numOps I ∧ numOps I ≤ v ∧ v < numOps I + numMachines I) ∨
    (numOps I ≤ u ∧ u < numOps I + numMachines I ∧ v < numOps I) := by
  obtain ⟨r, hr, m, hm, (⟨rfl, rfl⟩ | ⟨rfl, rfl⟩)⟩ := (mem_opMachList I u v).1 h
  · exact Or.inl ⟨opId_lt hr, Nat.le_add_right _ _, Nat.add_lt_add_left (onMachine_lt hm) _⟩
  · exact Or.inr ⟨Nat.le_add_right _ _, Nat.add_lt_add_left (onMachine_lt hm) _, opId_lt hr⟩

theorem machMach_cls {I : Instance} {u v : Nat} (h : (u, v) ∈ machMachList I) :
    numOps I ≤ u ∧ u < numOps I + numMachines I ∧ numOps I ≤ v := by
  obtain ⟨m₁, m₂, h1, _, _, rfl, rfl⟩ := (mem_machMachList I u v).1 h
  exact ⟨Nat.le_add_right _ _, Nat.add_lt_add_left h1 _, Nat.le_add_right _ _⟩

theorem sameJob_cls {I : Instance} {u v : Nat} (h : (u, v) ∈ sameJobList I) : u < numOps I ∧ v < numOps I :=
  sameJobEdge_lt ((mem_sameJobList I u v).1 h)

theorem opJob_cls {I : Instance} {u v : Nat} (h : (u, v) ∈ opJobList I) :
    (u < numOps I ∧ numOps I + numMachines I ≤ v ∧ v < numOps I + numMachines I + I.length) ∨
    (numOps I + numMachines I ≤ u ∧ u < numOps I + numMachines I + I.length ∧ v < numOps I) := by
  obtain ⟨⟨j, p⟩, hr, (⟨rfl, rfl⟩ | ⟨rfl, rfl⟩)⟩ := (mem_opJobList I u v).1 h
  · exact Or.inl ⟨opId_lt hr, Nat.le_add_right _ _, Nat.add_lt_add_left ((mem_allOps_iff I j p).1 hr).1 _⟩
  · exact Or.inr ⟨Nat.le_add_right _ _, Nat.add_lt_add_left ((mem_allOps_iff I j p).1 hr).1 _, opId_lt hr⟩

theorem jobJob_cls {I : Instance} {u v : Nat} (h : (u, v) ∈ jobJobList I) :
    numOps I + numMachines I ≤ u ∧ numOps I + numMachines I ≤ v := by
  obtain ⟨j₁, j₂, _, _, _, rfl, rfl⟩ := (mem_jobJobList I u v).1 h
  exact ⟨Nat.le_add_right _ _, Nat.le_add_right _ _⟩

theorem global_cls {I : Instance} {u v : Nat} (h : (u, v) ∈ globalList I) : numOps I ≤ u ∧ numOps I ≤ v := by
  rw [globalList_eq, mem_star] at h
  simp only [List.mem_map, List.mem_range] at h
  rcases h with ⟨rfl, i, _, rfl⟩ | ⟨rfl, i, _, rfl⟩ <;> omega
theorem exists_untyped (P : Prop) : (∃ t : EType, P ∧ t = .untyped) ↔ P :=
  ⟨fun ⟨_, h, _⟩ => h, fun h => ⟨.untyped, h, rfl⟩⟩

theorem edges_agentTask (I : Instance) :
    (buildAgentTask I).edges.length = (opMachList I).length + (machMachList I).length + (sameJobList I).length := by
  rw [stage_count (stage_agentTask I) (opMachList I ++ machMachList I ++ sameJobList I)]
  · simp only [List.length_append]
  · exact nodup_app (nodup_app (opMachList_nodup I) (machMachList_nodup I)
        (disj_of_cls opMach_cls machMach_cls fun _ _ _ _ => by omega)) (sameJobList_nodup I)
      (List.forall_mem_append.2 ⟨disj_of_cls opMach_cls sameJob_cls fun _ _ _ _ => by omega,
        disj_of_cls machMach_cls sameJob_cls fun _ _ _ _ => by omega⟩)
  · intro u v
    simp only [List.mem_append, mem_opMachList, mem_machMachList, mem_sameJobList, AgentTaskEdgeSpec, exists_untyped,
      or_assoc]

theorem edges_agentTaskJobs (I : Instance) :
    (buildAgentTaskJobs I).edges.length =
      (opMachList I).length + (machMachList I).length + (opJobList I).length + (jobJobList I).length := by
  rw [stage_count (stage_agentTaskJobs I) (opMachList I ++ machMachList I ++ opJobList I ++ jobJobList I)]
  · simp only [List.length_append]
  · exact nodup_app (nodup_app (nodup_app (opMachList_nodup I) (machMachList_nodup I)
          (disj_of_cls opMach_cls machMach_cls fun _ _ _ _ => by omega)) (opJobList_nodup I)
        (List.forall_mem_append.2 ⟨disj_of_cls opMach_cls opJob_cls fun _ _ _ _ => by omega,
          disj_of_cls machMach_cls opJob_cls fun _ _ _ _ => by omega⟩)) (jobJobList_nodup I)
      (List.forall_mem_append.2 ⟨List.forall_mem_append.2 ⟨disj_of_cls opMach_cls jobJob_cls fun _ _ _ _ => by omega,
        disj_of_cls machMach_cls jobJob_cls fun _ _ _ _ => by omega⟩,
        disj_of_cls opJob_cls jobJob_cls fun _ _ _ _ => by omega⟩)
  · intro u v
    simp only [List.mem_append, mem_opMachList, mem_machMachList, mem_opJobList, mem_jobJobList, AgentTaskJobsEdgeSpec,
      exists_untyped, or_assoc]

theorem edges_completeAgentTask (I : Instance) :
    (buildCompleteAgentTask I).edges.length = (opMachList I).length + (opJobList I).length + (globalList I).length := by
  rw [stage_count (stage_completeAgentTask I) (opMachList I ++ opJobList I ++ globalList I)]
  · simp only [List.length_append]
  · exact nodup_app (nodup_app (opMachList_nodup I) (opJobList_nodup I)
        (disj_of_cls opMach_cls opJob_cls fun _ _ _ _ => by omega)) (globalList_nodup I)
      (List.forall_mem_append.2 ⟨disj_of_cls opMach_cls global_cls fun _ _ _ _ => by omega,
        disj_of_cls opJob_cls global_cls fun _ _ _ _ => by omega⟩)
  · intro u v
    simp only [List.mem_append, mem_opMachList, mem_opJobList, mem_globalList, CompleteAgentTaskEdgeSpec,
      exists_untyped, or_assoc]

theorem Rect.edges_disjunctive {I : Instance} {J M : Nat} (h : Rect I J M) :
    (buildDisjunctive I).edges.length = (disjList I).length + (conjList I).length + (ssList I (numOps I)).length := by
  rw [stage_count (stage_disjunctive I) (disjList I ++ conjList I ++ ssList I (numOps I))]
  · simp only [List.length_append]
  · refine nodup_app (nodup_app h.disjList_nodup (conjList_nodup I) ?_) (ssList_nodup I) ?_
    · rintro ⟨u, v⟩ h1 h2
      obtain ⟨a, ha, b, hb, hne, rfl, rfl, hsh⟩ := (mem_disjList I u v).1 h1
      obtain ⟨a', ha', b', hb', hjs, e1, e2⟩ := (mem_conjList I _ _).1 h2
      have := opId_inj ha ha' e1; subst this
      have := opId_inj hb hb' e2; subst this
      exact hne (h.share_same_job ha hb hjs.1.symm hsh)
    · rintro ⟨u, v⟩ h1 h2
      have hlt : u < numOps I ∧ v < numOps I := by
        rcases List.mem_append.1 h1 with h1 | h1
        · obtain ⟨a, ha, b, hb, _, rfl, rfl, _⟩ := (mem_disjList I u v).1 h1
          exact ⟨opId_lt ha, opId_lt hb⟩
        · obtain ⟨a, ha, b, hb, _, rfl, rfl⟩ := (mem_conjList I u v).1 h1
          exact ⟨opId_lt ha, opId_lt hb⟩
      exact not_mem_ssList_of_lt I (numOps I) u v hlt.1 hlt.2 h2
  · intro u v
    rw [List.mem_append, List.mem_append, mem_disjList, mem_conjList, mem_ssList]
    unfold DisjEdgeSpec
    constructor
    · rintro ((⟨a, ha, b, hb, hne, hu, hv, hsh⟩ | ⟨a, ha, b, hb, hjs, hu, hv⟩) | (⟨a, ha, h0, hu, hv⟩ | ⟨a, ha, hl, hu, hv⟩))
      · by_cases hjs : JobSucc a b
        · exact ⟨.conjunctive, Or.inl ⟨a, ha, b, hb, hne, hu, hv, Or.inl ⟨hjs, rfl⟩⟩⟩
        · exact ⟨.disjunctive, Or.inl ⟨a, ha, b, hb, hne, hu, hv, Or.inr ⟨hjs, hsh, rfl⟩⟩⟩
      · exact ⟨.conjunctive, Or.inl ⟨a, ha, b, hb, jobSucc_ne hjs, hu, hv, Or.inl ⟨hjs, rfl⟩⟩⟩
      · exact ⟨.conjunctive, Or.inr (Or.inl ⟨a, ha, h0, hu, hv, rfl⟩)⟩
      · exact ⟨.conjunctive, Or.inr (Or.inr ⟨a, ha, hl, hu, hv, rfl⟩)⟩
    · rintro ⟨t, (⟨a, ha, b, hb, hne, hu, hv, (⟨hjs, _⟩ | ⟨_, hsh, _⟩)⟩ | ⟨a, ha, h0, hu, hv, _⟩ | ⟨a, ha, hl, hu, hv, _⟩)⟩
      · exact Or.inl (Or.inr ⟨a, ha, b, hb, hjs, hu, hv⟩)
      · exact Or.inl (Or.inl ⟨a, ha, b, hb, hne, hu, hv, hsh⟩)
      · exact Or.inr (Or.inl ⟨a, ha, h0, hu, hv⟩)
      · exact Or.inr (Or.inr ⟨a, ha, hl, hu, hv⟩)

def nodesOf (b : Builder) (J M : Nat) : Nat :=
  match b with
  | .disjunctive => J * M + 2
  | .agentTask => J * M + kOf J M
  | .agentTaskJobs => J * M + kOf J M + J
  | .completeAgentTask => J * M + kOf J M + J + 1

def edgesOf (b : Builder) (J M : Nat) : Nat :=
  match b with
  | .disjunctive => kOf J M * (J * (J - 1)) + J * (M - 1) + J * (if M = 0 then 0 else 2)
  | .agentTask => kOf J M * (2 * J) + kOf J M * (kOf J M - 1) + J * (M * (M - 1))
  | .agentTaskJobs => kOf J M * (2 * J) + kOf J M * (kOf J M - 1) + J * (2 * M) + J * (J - 1)
  | .completeAgentTask => kOf J M * (2 * J) + J * (2 * M) + (2 * kOf J M + 2 * J)

theorem Rect.nodes_build {I : Instance} {J M : Nat} (h : Rect I J M) (b : Builder) :
    (build b I).nodes.length = nodesOf b J M := by
  obtain ⟨h1, h2, h3, h4⟩ := C16_nodes I
  cases b
  · rw [h1, List.length_append, List.length_map, List.length_range, h.numOps_eq]; rfl
  · rw [h2, length_opsL_machsL, h.numOps_eq, h.numMachines_eq]; rfl
  · rw [h3, length_opsL_machsL_jobsL, h.numOps_eq, h.numMachines_eq, h.len]; rfl
  · rw [h4, List.length_append, length_opsL_machsL_jobsL, h.numOps_eq, h.numMachines_eq, h.len]; rfl

theorem Rect.length_opMachList {I : Instance} {J M : Nat} (h : Rect I J M) :
    (opMachList I).length = kOf J M * (2 * J) := by
  unfold opMachList
  rw [length_flatMap_range_const _ _ (2 * J), h.numMachines_eq]
  intro m hm
  rw [h.numMachines_eq] at hm
  rw [length_star, h.length_nbm (Nat.lt_of_lt_of_le hm (kOf_le J M))]

theorem Rect.length_opJobList {I : Instance} {J M : Nat} (h : Rect I J M) :
    (opJobList I).length = J * (2 * M) := by
  unfold opJobList
  rw [length_flatMap_range_const _ _ (2 * M), h.len]
  intro j hj
  rw [length_star, length_nbj, h.getD_len hj]

theorem Rect.length_sameJobList {I : Instance} {J M : Nat} (h : Rect I J M) :
    (sameJobList I).length = J * (M * (M - 1)) := by
  unfold sameJobList
  rw [length_flatMap_range_const _ _ (M * (M - 1)), h.len]
  intro j hj
  rw [length_bothDir_pairs, length_nbj, h.getD_len hj]

theorem Rect.length_conjList {I : Instance} {J M : Nat} (h : Rect I J M) :
    (conjList I).length = J * (M - 1) := by
  unfold conjList
  rw [length_flatMap_range_const _ _ (M - 1), h.len]
  intro j hj
  rw [List.length_zip, List.length_tail, length_nbj, h.getD_len hj]
  omega

theorem Rect.length_ssList {I : Instance} {J M : Nat} (h : Rect I J M) (n : Nat) :
    (ssList I n).length = J * (if M = 0 then 0 else 2) := by
  rw [ssList_eq, length_flatMap_range_const _ _ (if M = 0 then 0 else 2), h.len]
  intro j hj
  rw [h.getD_len hj]
  split <;> rfl

theorem Rect.length_disjList {I : Instance} {J M : Nat} (h : Rect I J M) :
    (disjList I).length = kOf J M * (J * (J - 1)) := by
  unfold disjList
  rw [length_flatMap_range_const _ _ (J * (J - 1)), h.numMachines_eq]
  intro m hm
  rw [h.numMachines_eq] at hm
  rw [length_bothDir_pairs, h.length_nbm (Nat.lt_of_lt_of_le hm (kOf_le J M))]

theorem Rect.edges_build {I : Instance} {J M : Nat} (h : Rect I J M) (b : Builder) :
    (build b I).edges.length = edgesOf b J M := by
  cases b
  · show (buildDisjunctive I).edges.length = _
    rw [h.edges_disjunctive, h.length_disjList, h.length_conjList, h.length_ssList]; rfl
  · show (buildAgentTask I).edges.length = _
    rw [edges_agentTask, h.length_opMachList, length_machMachList, h.length_sameJobList, h.numMachines_eq]; rfl
  · show (buildAgentTaskJobs I).edges.length = _
    rw [edges_agentTaskJobs, h.length_opMachList, length_machMachList, h.length_opJobList, length_jobJobList,
      h.numMachines_eq, h.len]; rfl
  · show (buildCompleteAgentTask I).edges.length = _
    rw [edges_completeAgentTask, h.length_opMachList, h.length_opJobList, length_globalList, h.numMachines_eq, h.len]
    rfl

theorem nodesOf_mono (b : Builder) {J M J' M' : Nat} (hJ : J ≤ J') (hM : M ≤ M') : nodesOf b J M ≤ nodesOf b J' M' := by
  have hK := kOf_mono hJ hM
  have hJM : J * M ≤ J' * M' := Nat.mul_le_mul hJ hM
  cases b
  · exact Nat.add_le_add_right hJM 2
  · exact Nat.add_le_add hJM hK
  · exact Nat.add_le_add (Nat.add_le_add hJM hK) hJ
  · exact Nat.add_le_add_right (Nat.add_le_add (Nat.add_le_add hJM hK) hJ) 1

theorem two_if_pos_mono {M M' : Nat} (hM : M ≤ M') : (if M = 0 then 0 else 2) ≤ (if M' = 0 then 0 else 2) := by
  split
  · exact Nat.zero_le _
  · rw [if_neg (by omega)]; exact Nat.le_refl _

/-- every summand of `edgesOf` is a product of monotone factors -/
theorem edgesOf_mono (b : Builder) {J M J' M' : Nat} (hJ : J ≤ J') (hM : M ≤ M') : edgesOf b J M ≤ edgesOf b J' M' := by
  have hK := kOf_mono hJ hM
  have hJ1 : J - 1 ≤ J' - 1 := Nat.sub_le_sub_right hJ 1
  have hM1 : M - 1 ≤ M' - 1 := Nat.sub_le_sub_right hM 1
  have hK1 : kOf J M - 1 ≤ kOf J' M' - 1 := Nat.sub_le_sub_right hK 1
  have h2J : 2 * J ≤ 2 * J' := Nat.mul_le_mul_left 2 hJ
  have h2M : 2 * M ≤ 2 * M' := Nat.mul_le_mul_left 2 hM
  cases b
  · exact Nat.add_le_add (Nat.add_le_add (Nat.mul_le_mul hK (Nat.mul_le_mul hJ hJ1)) (Nat.mul_le_mul hJ hM1))
      (Nat.mul_le_mul hJ (two_if_pos_mono hM))
  · exact Nat.add_le_add (Nat.add_le_add (Nat.mul_le_mul hK h2J) (Nat.mul_le_mul hK hK1))
      (Nat.mul_le_mul hJ (Nat.mul_le_mul hM hM1))
  · exact Nat.add_le_add (Nat.add_le_add (Nat.add_le_add (Nat.mul_le_mul hK h2J) (Nat.mul_le_mul hK hK1))
      (Nat.mul_le_mul hJ h2M)) (Nat.mul_le_mul hJ hJ1)
  · exact Nat.add_le_add (Nat.add_le_add (Nat.mul_le_mul hK h2J) (Nat.mul_le_mul hJ h2M))
      (Nat.add_le_add (Nat.mul_le_mul_left 2 hK) h2J)

theorem generateFixed_ok {p : GenParams} {nj nm : Nat} {draws : List Nat} {I : Instance} {n : Nat} {d : List Nat}
    (h : generateFixed p nj nm draws = .ok (I, n, d)) : genJobs p nm nj draws = .ok (I, d) := by
  unfold generateFixed at h
  split at h
  · cases h
  · split at h
    · cases h
    next jobs d' hg => cases h; exact hg

/-- jobs of the shape the generator guarantees, for a classic generator: one machine per operation, each machine once -/
theorem rect_of_shape {p : GenParams} (hcl : Classic p) {I : Instance} {nm : Nat}
    (h : ∀ job ∈ I, job.length = nm ∧ (∀ op ∈ job, OpShape p nm op) ∧
      (p.mpo.2 ≤ 1 → p.allowRecirc = false → (job.map fun op => op.machines.headD 0).Perm (List.range nm))) :
    Rect I I.length nm := by
  have hmpo : p.mpo.2 = 1 := by rw [hcl.2]
  refine ⟨rfl, fun job hj op ho => ?_, fun job hj => (h job hj).2.2 (by omega) hcl.1⟩
  have := ((h job hj).2.1 op ho).count
  rwa [if_neg (by omega)] at this

theorem generateFixed_rect {p : GenParams} (hcl : Classic p) {nj nm : Nat} {draws : List Nat} {I : Instance} {n : Nat}
    {d : List Nat} (h : generateFixed p nj nm draws = .ok (I, n, d)) : Rect I nj nm := by
  obtain ⟨h1, h2⟩ := genJobs_spec p nm nj draws I d (generateFixed_ok h)
  exact h1 ▸ rect_of_shape hcl h2

theorem next_rect {p : GenParams} (hcl : Classic p) {g g' : GenState} {I : Instance} {n : Nat}
    (h : g.next p = .ok (I, n, g')) :
    ∃ J M, Rect I J M ∧ J ≤ p.jobsRange.2 ∧ M ≤ p.machinesRange.2 := by
  obtain ⟨nm, d, hg, _, _⟩ := GenState.next_ok h
  obtain ⟨_, b, _, d', _, f⟩ := C19_shape p g.draws I nm d hg
  exact ⟨I.length, nm, rect_of_shape hcl f, b, d'⟩

/-- the feature types of the configured observers, in order -/
def featFts (feats : List (FKind × Option (List FT))) : List (List FT) :=
  feats.filterMap fun kf => resolveFts kf.1 kf.2

/-- the spaces `SingleJobShopGraphEnv.__init__` declares -/
def spaceOf (I : Instance) (ec : EnvCfg) : Space :=
  { nJobs := I.length, nMachines := numMachines I, nNodes := (build ec.builder I).nodes.length,
    nEdges := (build ec.builder I).edges.length, feats := shapeF I (featFts ec.feats) }

theorem ext_at {wA wB : FWorld} (e : WExt wA wB) {id : Nat} {base : FObs} (g : wA.heap[id]? = some base)
    (hs : base.kind.single = true) : ∃ q, wB.heap[id]? = some q ∧ q.fts = base.fts ∧ q.kind = base.kind := by
  obtain ⟨q, hq, hk, _, _, hf⟩ := e.step id base g
  exact ⟨q, hq, hf hs, hk⟩

theorem construct_fts {w : FWorld} (hw : HeapOK w) (kind : FKind) (hs : kind.single = true) (fts : Option (List FT))
    (hnd : ∀ l, fts = some l → l.Nodup) (w1 : FWorld) (id : Nat) (h : w.construct kind fts = (w1, some id)) :
    ∃ l q, resolveFts kind fts = some l ∧ w1.heap[id]? = some q ∧ q.fts = l ∧ q.kind = kind := by
  cases hr : resolveFts kind fts with
  | none => rw [construct_none hs hr] at h; cases h
  | some l =>
    obtain ⟨_, e1⟩ := construct_some hw hs hr (resolveFts_nodup hnd hr)
    have hid := construct_snd (w := w) hs hr
    rw [h] at e1 hid
    cases hid
    obtain ⟨q, hq, hf, hk⟩ := ext_at e1 (push_heap_new w _) hs
    exact ⟨l, q, rfl, hq, hf, hk⟩

theorem constructFeats_fts (feats : List (FKind × Option (List FT))) (w : FWorld) (hw : HeapOK w) (hf : FeatsOK feats)
    (w' : FWorld) (ids : List Nat) (h : constructFeats w feats = some (w', ids)) :
    (ids.filterMap fun i => w'.heap[i]?).map (·.fts) = featFts feats := by
  revert hw hf
  refine constructFeats_induct (P := fun w feats w' ids => HeapOK w → FeatsOK feats →
    (ids.filterMap fun i => w'.heap[i]?).map (·.fts) = featFts feats) (fun _ _ _ => rfl) ?_ feats w w' ids h
  intro w k fts rest w1 id w' ids hs hc hr ih hw hf
  have hnd := hf (k, fts) (List.mem_cons_self ..)
  have hf' : FeatsOK rest := fun kf hkf => hf kf (List.mem_cons_of_mem _ hkf)
  have h1 := (construct_feature hw k hs fts hnd).1
  rw [hc] at h1
  obtain ⟨l, q, hrl, hq, hqf, hqk⟩ := construct_fts hw k hs fts hnd w1 id hc
  obtain ⟨_, e2, _⟩ := constructFeats_ok rest w1 h1 hf' w' ids hr
  obtain ⟨q', hq', hqf', _⟩ := ext_at e2 hq (hqk ▸ hs)
  simp only [List.filterMap_cons, hq', List.map_cons, featFts, hrl, hqf', hqf]
  exact congrArg _ (ih h1 hf')

/-- **the declared spaces depend on the instance only through its graph sizes and entity counts** -/
theorem make_space {c : Cfg} {ec : EnvCfg} {e : Env} (hf : FeatsOK ec.feats) (h : Env.make c ec = some e) :
    e.space = spaceOf c.I ec := by
  obtain ⟨_, _, _, _, _, _, _, _, _, _, _, _, _, hsp⟩ := Env.make_inv h
  obtain ⟨w1, ids, hm⟩ := Env.make_heap hf h
  obtain ⟨oc, hoc, hkc, hpc⟩ := hm.comp
  obtain ⟨ou, hou, _, _, hg⟩ := hm.upd
  have hfeat := ((hm.heap _ oc hoc).comp hkc).shape.1
  rw [hm.cfg, hpc, parts_fts_ext hm.ext ids hm.single,
    constructFeats_fts ec.feats _ (heapOK_init c) hf w1 ids hm.feats] at hfeat
  rw [hsp, getD_of_get hou, getD_of_get hoc, hg, hfeat]
  rfl

/-- observer kinds that the feature-observer constructors (and their helpers) create -/
def Low (k : FKind) : Prop := k ≠ .residual ∧ k ≠ .history ∧ k ≠ .makespanReward ∧ k ≠ .idleReward

def AllK (P : FKind → Prop) (w : FWorld) : Prop := ∀ o ∈ w.heap, P o.kind

theorem allK_push {P : FKind → Prop} {w : FWorld} (h : AllK P w) (o : FObs) (ho : P o.kind) : AllK P (w.push o).1 := by
  intro x hx
  simp only [FWorld.push, List.mem_append, List.mem_singleton] at hx
  rcases hx with hx | rfl
  · exact h x hx
  · exact ho

theorem allK_setObs {P : FKind → Prop} {w : FWorld} (h : AllK P w) (id : Nat) (o' : FObs) (ho : P o'.kind) :
    AllK P (w.setObs id o') := by
  intro x hx
  rcases List.mem_or_eq_of_mem_set hx with hx | rfl
  · exact h x hx
  · exact ho

theorem allK_mono {P Q : FKind → Prop} {w : FWorld} (h : AllK P w) (hPQ : ∀ k, P k → Q k) : AllK Q w :=
  fun o ho => hPQ _ (h o ho)

theorem low_of_tunable {k : FKind} (h : k.tunable = true) : Low k := by
  refine ⟨?_, ?_, ?_, ?_⟩ <;> (rintro rfl; cases h)

/-- kinds are never rewritten, so a property of all kinds survives edits whose pushed observers have it -/
theorem AllK.of_edits {P : FKind → Prop} {N : FObs → Prop} {lo : Nat} {w w' : FWorld} (h : AllK P w)
    (e : Edits N lo w w') (hN : ∀ o, N o → P o.kind) : AllK P w' := by
  induction e with
  | refl => exact h
  | push o _ hn ih => exact allK_push ih o (hN o hn)
  | set o' _ _ _ ho ht ih => exact allK_setObs ih _ o' (ht.kind ▸ ih _ (List.mem_of_getElem? ho))

theorem low_constructComposite {w : FWorld} (h : AllK Low w) (parts : Option (List Nat)) :
    AllK Low (w.constructComposite parts).1 := by
  unfold FWorld.constructComposite
  simp only
  exact allK_setObs (allK_push h _ (by simp [Low])) _ _ (by simp [Low])

theorem low_construct {w : FWorld} (h : AllK Low w) (kind : FKind) (hs : kind.single = true) (fts : Option (List FT)) :
    AllK Low (w.construct kind fts).1 :=
  h.of_edits (construct_edits w kind fts) fun o ho =>
    have hk : Low kind := low_of_tunable (single_tunable hs)
    ho.kind_cases.elim (fun e => e ▸ hk) low_of_tunable

theorem any_kind_false {P : FKind → Prop} {w : FWorld} (h : AllK P w) (K : FKind) (hK : ¬ P K) :
    (w.subs.any fun id => (w.heap[id]?.map (·.kind)) == some K) = false := by
  cases hb : (w.subs.any fun id => (w.heap[id]?.map (·.kind)) == some K) with
  | false => rfl
  | true =>
    obtain ⟨id, _, hid⟩ := List.any_eq_true.1 hb
    simp only [beq_iff_eq, Option.map_eq_some_iff] at hid
    obtain ⟨o, ho, hk⟩ := hid
    exact absurd (hk ▸ h o (List.mem_of_getElem? ho)) hK

/-- a feature-observer configuration the constructor accepts -/
def FeatGood (kf : FKind × Option (List FT)) : Prop :=
  (!kf.1.isFeature || kf.1 == .composite) = false ∧ (resolveFts kf.1 kf.2).isSome = true

theorem construct_resolve {w w1 : FWorld} {k : FKind} (hs : k.single = true) {fts : Option (List FT)} {id : Nat}
    (h : w.construct k fts = (w1, some id)) : (resolveFts k fts).isSome = true := by
  cases hr : resolveFts k fts with
  | some l => rfl
  | none => rw [construct_none hs hr] at h; cases h

theorem constructFeats_good (feats : List (FKind × Option (List FT))) (w w' : FWorld) (ids : List Nat)
    (h : constructFeats w feats = some (w', ids)) : ∀ kf ∈ feats, FeatGood kf := by
  refine constructFeats_induct (P := fun _ feats _ _ => ∀ kf ∈ feats, FeatGood kf) (fun _ _ hkf => nomatch hkf) ?_
    feats w w' ids h
  intro w k fts rest w1 id _ _ hs hc _ ih kf hkf
  rcases List.mem_cons.1 hkf with rfl | hkf
  · exact ⟨(by cases k <;> first | rfl | cases hs), construct_resolve hs hc⟩
  · exact ih kf hkf

theorem constructFeats_total : ∀ (feats : List (FKind × Option (List FT))) (w : FWorld), (∀ kf ∈ feats, FeatGood kf) →
    AllK Low w → ∃ w' ids, constructFeats w feats = some (w', ids) ∧ AllK Low w'
  | [], w, _, hl => ⟨w, [], rfl, hl⟩
  | (k, fts) :: rest, w, hg, hl => by
    obtain ⟨hk, hr⟩ := hg (k, fts) (by simp)
    have hs : k.single = true := isFeature_single hk
    obtain ⟨l, hrl⟩ := Option.isSome_iff_exists.1 hr
    have hid := construct_snd (w := w) hs hrl
    have hl1 := low_construct hl k hs fts
    rcases hc : w.construct k fts with ⟨w1, oid⟩
    rw [hc] at hid hl1
    simp only at hid hl1
    subst hid
    obtain ⟨w2, ids2, h2, hl2⟩ := constructFeats_total rest w1 (fun kf hkf => hg kf (by simp [hkf])) hl1
    refine ⟨w2, w.heap.length :: ids2, ?_, hl2⟩
    simp only [constructFeats]
    rw [if_neg (by rw [hk]; simp), hc]
    simp only [h2]

/-- kinds other than the ones the reward / history constructors look for -/
def NoRew (k : FKind) : Prop := k ≠ .history ∧ k ≠ .makespanReward ∧ k ≠ .idleReward
def NoHist (k : FKind) : Prop := k ≠ .history

theorem constructResidual_total {w : FWorld} (h : AllK Low w) (g : Graph) (rm rj : Bool) :
    ∃ w' id, w.constructResidual g rm rj = (w', some id) ∧ AllK NoRew w' := by
  have hsome : ∃ id, (w.constructResidual g rm rj).2 = some id := by
    unfold FWorld.constructResidual
    rw [any_kind_false h .residual fun hl => hl.1 rfl]
    exact ⟨_, rfl⟩
  obtain ⟨id, hid⟩ := hsome
  refine ⟨_, id, Prod.ext rfl hid, (allK_mono h fun k hk => hk.2).of_edits (constructResidual_edits w g rm rj) ?_⟩
  rintro o (ho | ⟨_, rfl⟩)
  · exact (low_of_tunable ho.tunable).2
  · exact ⟨nofun, nofun, nofun⟩
theorem construct_singleton_total {P Q : FKind → Prop} {w : FWorld} (kind : FKind)
    (hk : kind = .history ∨ kind = .makespanReward ∨ kind = .idleReward) (h : AllK P w) (hno : ¬ P kind)
    (hPQ : ∀ k, P k → Q k) (hQ : Q kind) : ∃ w' id, w.construct kind none = (w', some id) ∧ AllK Q w' := by
  rcases construct_plain_cases w (Or.inr hk) with ⟨ht, _⟩ | ⟨_, o, ho, e⟩
  · rw [any_kind_false h kind hno] at ht; cases ht
  · exact ⟨_, _, e, allK_push (allK_mono h hPQ) o (ho ▸ hQ)⟩

/-- **if the constructor accepts a configuration on one instance it accepts it on every instance** -/
theorem make_total {c : Cfg} {ec : EnvCfg} {e : Env} (h : Env.make c ec = some e) (c' : Cfg) :
    ∃ e', Env.make c' ec = some e' := by
  obtain ⟨w1, ids, _, _, _, _, h1, _, _, hrk, _⟩ := Env.make_inv h
  have hfeat := constructFeats_good _ _ w1 ids h1
  have hinit : AllK Low (FWorld.init c') := fun o ho => nomatch ho
  obtain ⟨w1, ids, h1, l1⟩ := constructFeats_total ec.feats _ hfeat hinit
  have l2 := low_constructComposite l1 (some ids)
  have h2 : w1.constructComposite (some ids) = ((w1.constructComposite (some ids)).1, some w1.heap.length) := rfl
  generalize (w1.constructComposite (some ids)).1 = w2 at h2 l2
  obtain ⟨w3, upd, h3, l3⟩ := constructResidual_total l2 (build ec.builder c'.I) ec.rmMach ec.rmJob
  have hrw : (ec.reward != .makespanReward && ec.reward != .idleReward) = false := by
    rcases hrk with h | h <;> rw [h] <;> rfl
  have hk : ec.reward = .history ∨ ec.reward = .makespanReward ∨ ec.reward = .idleReward := Or.inr hrk
  have hnh : NoHist ec.reward := by rcases hrk with h | h <;> rw [h] <;> exact FKind.noConfusion
  obtain ⟨w4, rew, h4, l4⟩ := construct_singleton_total (Q := NoHist) ec.reward hk l3
    (fun hn => hrk.elim hn.2.1 hn.2.2)
    (fun k hk => hk.1) hnh
  obtain ⟨w5, hid, h5, _⟩ := construct_singleton_total (Q := fun _ => True) .history (Or.inl rfl) l4 (fun hn => hn rfl)
    (fun _ _ => trivial) trivial
  simp only [Env.make, h1, h2, h3, hrw, h4, h5, Bool.false_eq_true, ↓reduceIte]
  exact ⟨_, rfl⟩

theorem padMatrix_ok (cols : List (List Int)) (rows : Nat) (hr : (cols.headD []).length ≤ rows)
    (hu : ∀ col ∈ cols, col.length = (cols.headD []).length) :
    ∃ m, padMatrix cols rows cols.length = some m ∧ m.length = cols.length ∧ ∀ col ∈ m, col.length = rows := by
  unfold padMatrix matShape
  simp only
  rw [if_neg (by rw [Bool.or_eq_true, decide_eq_true_eq, decide_eq_true_eq]; omega)]
  split
  · exact ⟨_, rfl, List.length_replicate, fun col hc => (List.mem_replicate.1 hc).2 ▸ List.length_replicate⟩
  · rw [Nat.sub_self, List.replicate_zero, List.append_nil]
    refine ⟨_, rfl, List.length_map _, fun col hc => ?_⟩
    obtain ⟨c0, hc0, rfl⟩ := List.mem_map.1 hc
    rw [List.length_append, List.length_replicate, hu c0 hc0, Nat.add_sub_of_le hr]

theorem matShape_of_uniform (m : List (List Int)) (rows n : Nat) (hlen : m.length = n) (hpos : 1 ≤ n)
    (hall : ∀ col ∈ m, col.length = rows) :
    matShape m = (rows, n) ∧ ∀ col ∈ m, col.length = (m.headD []).length := by
  cases m with
  | nil => simp at hlen; omega
  | cons a t =>
    have ha := hall a (by simp)
    refine ⟨by simp only [matShape, List.headD_cons, ha, hlen], ?_⟩
    intro col hc
    rw [hall col hc, List.headD_cons, ha]

theorem find_key (g : FT → Nat × Nat) (ft : FT) : ∀ (keys : List FT), ft ∈ keys →
    (keys.map fun k => (k, g k)).find? (·.1 == ft) = some (ft, g ft)
  | k :: t, h => by
    rw [List.map_cons, List.find?_cons]
    by_cases hk : k = ft
    · rw [hk, beq_self_eq_true]
    · rw [beq_false_of_ne hk]
      exact find_key g ft t ((List.mem_cons.1 h).resolve_left (Ne.symm hk))
theorem padFeat_ok {sp0 : Space} {keys : List FT} {r0 cnt : FT → Nat}
    (hsp0 : sp0.feats = keys.map fun ft => (ft, r0 ft, cnt ft)) (hpos : ∀ ft ∈ keys, 1 ≤ cnt ft)
    {tc : FT × List (List Int)} (hk : tc.1 ∈ keys) {r : Nat} (hshape : matShape tc.2 = (r, cnt tc.1)) (hle : r ≤ r0 tc.1)
    (hu : ∀ col ∈ tc.2, col.length = (tc.2.headD []).length) :
    ∃ b, padFeat sp0 tc = some b ∧ (b.1, matShape b.2) = (tc.1, r0 tc.1, cnt tc.1) ∧
      ∀ col ∈ b.2, col.length = (b.2.headD []).length := by
  have hfind : sp0.feats.find? (·.1 == tc.1) = some (tc.1, r0 tc.1, cnt tc.1) := by
    rw [hsp0]; exact find_key (fun ft => (r0 ft, cnt ft)) tc.1 keys hk
  simp only [matShape, Prod.mk.injEq] at hshape
  obtain ⟨m, hm1, hm2, hm3⟩ := padMatrix_ok tc.2 (r0 tc.1) (hshape.1 ▸ hle) hu
  obtain ⟨hms, hmu⟩ := matShape_of_uniform m (r0 tc.1) (cnt tc.1) (hm2.trans hshape.2) (hpos _ hk) hm3
  refine ⟨(tc.1, m), ?_, by rw [hms], hmu⟩
  unfold padFeat
  rw [hfind]
  simp only
  rw [← hshape.2, hm1]; rfl

theorem padObs_fits (sp sp0 : Space) (keys : List FT) (r r0 cnt : FT → Nat)
    (hsp : sp.feats = keys.map fun ft => (ft, r ft, cnt ft))
    (hsp0 : sp0.feats = keys.map fun ft => (ft, r0 ft, cnt ft)) (hle : ∀ ft, r ft ≤ r0 ft)
    (hpos : ∀ ft ∈ keys, 1 ≤ cnt ft) (hn : sp.nNodes ≤ sp0.nNodes) (he : sp.nEdges ≤ sp0.nEdges)
    (o : EObs) (ho : sp.containsObs o = true) : ∃ o', padObs sp0 o = some o' ∧ sp0.containsObs o' = true := by
  rw [containsObs_iff] at ho
  obtain ⟨⟨⟨⟨h1, h2⟩, h3⟩, h4⟩, h5⟩ := ho
  rw [hsp] at h4
  obtain ⟨fs', hfs, hsh, hu⟩ := mapM_some_of_forall (f := padFeat sp0) (g := fun tc => (tc.1, matShape tc.2))
    (h := fun tc => (tc.1, r0 tc.1, cnt tc.1)) (Q := fun b => ∀ col ∈ b.2, col.length = (b.2.headD []).length) o.feats
    fun tc htc => by
      obtain ⟨ft, hft, e⟩ := List.mem_map.1
        (h4 ▸ List.mem_map_of_mem (f := fun tc : FT × List (List Int) => (tc.1, matShape tc.2)) htc)
      simp only [Prod.mk.injEq] at e
      obtain ⟨rfl, e⟩ := e
      exact padFeat_ok hsp0 hpos hft e.symm (hle _) (h5 tc htc)
  have hpad : padObs sp0 o = some
      { removed := o.removed ++ List.replicate (sp0.nNodes - o.removed.length) true,
        edgeIndex := o.edgeIndex ++ List.replicate (sp0.nEdges - o.edgeIndex.length) (-1, -1), feats := fs' } := by
    unfold padObs
    rw [padEnd_spec _ _ _ (h1 ▸ hn), padEnd_spec _ _ _ (h2 ▸ he)]
    simp only [hfs, Option.map_some]
  obtain ⟨_, hl1, hei, hl2, _⟩ := C18_padObs sp0 o _ hpad
  refine ⟨_, hpad, (containsObs_iff _ _).2 ⟨⟨⟨⟨hl1, hl2⟩, fun uv huv => ?_⟩, ?_⟩, hu⟩⟩
  · have hn' : (sp.nNodes : Int) ≤ sp0.nNodes := Int.ofNat_le.2 hn
    rcases List.mem_append.1 (hei ▸ huv) with h | h
    · obtain ⟨⟨⟨a, b⟩, c⟩, d⟩ := h3 uv h
      exact ⟨⟨⟨a, Int.lt_of_lt_of_le b hn'⟩, c⟩, Int.lt_of_lt_of_le d hn'⟩
    · obtain ⟨_, rfl⟩ := List.mem_replicate.1 h
      have hneg : (-1 : Int) < sp0.nNodes := Int.lt_of_lt_of_le (by decide) (Int.natCast_nonneg _)
      exact ⟨⟨⟨Int.le_refl _, hneg⟩, Int.le_refl _⟩, hneg⟩
  · have := congrArg (List.map fun k : FT × Nat × Nat => (k.1, r0 k.1, cnt k.1)) h4
    rw [List.map_map, List.map_map] at this
    exact (hsh.trans this).trans hsp0.symm

theorem Rect.fits {I I0 : Instance} {J M J0 M0 : Nat} (h : Rect I J M) (h0 : Rect I0 J0 M0) (hJ : J ≤ J0) (hM : M ≤ M0)
    (ec : EnvCfg) (o : EObs) (ho : (spaceOf I ec).containsObs o = true) :
    ∃ o', padObs (spaceOf I0 ec) o = some o' ∧ (spaceOf I0 ec).containsObs o' = true := by
  apply padObs_fits (spaceOf I ec) (spaceOf I0 ec) (orderOf (featFts ec.feats)) (numEntities I) (numEntities I0)
    (fun ft => ((featFts ec.feats).filter (·.contains ft)).length) rfl rfl ?_ ?_ ?_ ?_ o ho
  · intro ft
    cases ft
    · show numOps I ≤ numOps I0
      rw [h.numOps_eq, h0.numOps_eq]; exact Nat.mul_le_mul hJ hM
    · show numMachines I ≤ numMachines I0
      rw [h.numMachines_eq, h0.numMachines_eq]; exact kOf_mono hJ hM
    · show I.length ≤ I0.length
      rw [h.len, h0.len]; exact hJ
  · intro ft hft
    obtain ⟨fts, hfts, hmem⟩ := (orderOf_mem _ ft).1 hft
    exact List.length_pos_of_mem (List.mem_filter.2 ⟨hfts, List.contains_iff_mem.2 hmem⟩)
  · show (build ec.builder I).nodes.length ≤ (build ec.builder I0).nodes.length
    rw [h.nodes_build, h0.nodes_build]; exact nodesOf_mono _ hJ hM
  · show (build ec.builder I).edges.length ≤ (build ec.builder I0).edges.length
    rw [h.edges_build, h0.edges_build]; exact edgesOf_mono _ hJ hM

end MF

namespace MF

/-- rectangular and within the generator's ranges: what a classic generator yields -/
def RectIn (p : GenParams) (I : Instance) : Prop := ∃ J M, Rect I J M ∧ J ≤ p.jobsRange.2 ∧ M ≤ p.machinesRange.2

/-- what every reachable multi environment satisfies: the constructor's parameters and spaces, and an episode environment
that was made with the constructor's configuration on an instance with `P` (a property of all instances the generator
yields) and then stepped / reset -/
structure MInv (P : Instance → Prop) (p : GenParams) (ec : EnvCfg) (F : FilterCfg) (sp0 : Space) (m : MultiEnv) : Prop where
  hp : m.p = p
  hec : m.ec = ec
  hF : m.F = F
  hsp : m.space = sp0
  env : ∃ (I : Instance) (e0 : Env) (evs : List EnvEv), P I ∧ Env.make { I := I, F := F } ec = some e0 ∧
    m.env = e0.runEvs evs

section
variable {P : Instance → Prop} {p : GenParams} {ec : EnvCfg} {F : FilterCfg} {sp0 : Space}

theorem MInv.env_ec {m : MultiEnv} (h : MInv P p ec F sp0 m) (hf : FeatsOK ec.feats) : m.env.ec = ec := by
  obtain ⟨I, e0, evs, _, hmk, he⟩ := h.env
  rw [he]; exact (Env.runEvs_reach hf hmk evs).hec

theorem step_fst (m : MultiEnv) (j : Nat) (mm : Int) : (m.step j mm).1 = { m with env := (m.env.step j mm).1 } := by
  unfold MultiEnv.step
  rcases hs : m.env.step j mm with ⟨env', out⟩
  cases out with
  | raised => rfl
  | ok obs r d t av =>
    simp only
    split
    · split <;> rfl
    · rfl

theorem minv_step {m : MultiEnv} (h : MInv P p ec F sp0 m) (j : Nat) (mm : Int) : MInv P p ec F sp0 (m.step j mm).1 := by
  rw [step_fst]
  obtain ⟨I, e0, evs, hP, hmk, he⟩ := h.env
  refine ⟨h.hp, h.hec, h.hF, h.hsp, I, e0, evs ++ [.step j mm], hP, hmk, ?_⟩
  rw [Env.runEvs_append, ← he, Env.runEvs_step]

theorem minv_reset {m : MultiEnv} (hnext : ∀ (g g' : GenState) (I : Instance) (n : Nat), g.next p = .ok (I, n, g') → P I) (hf : FeatsOK ec.feats)
    (h : MInv P p ec F sp0 m) : MInv P p ec F sp0 m.reset.1 := by
  rcases m.reset_cases with ⟨_, e, _⟩ | ⟨I, n, gs', env, hg, hmk, e⟩
  · rw [e]; exact ⟨h.hp, h.hec, h.hF, h.hsp, h.env⟩
  · rw [e]
    rw [h.hp] at hg
    rw [h.env_ec hf, h.hec, h.hF] at hmk
    exact ⟨h.hp, h.hec, h.hF, h.hsp, I, env, [.reset], hnext _ _ _ _ hg, hmk, rfl⟩

theorem minv_run (hnext : ∀ (g g' : GenState) (I : Instance) (n : Nat), g.next p = .ok (I, n, g') → P I) (hf : FeatsOK ec.feats) :
    ∀ (evs : List MEv) (m : MultiEnv), MInv P p ec F sp0 m → MInv P p ec F sp0 (m.run evs)
  | [], _, h => h
  | ev :: t, m, h => by
    have h1 : MInv P p ec F sp0 (m.stepEv ev) := by
      cases ev with
      | reset => exact minv_reset hnext hf h
      | step j mm => exact minv_step h j mm
    exact minv_run hnext hf t _ h1

/-- the constructor's sample instance `I0` has maximum size; the declared spaces are those of `I0` -/
theorem make_minv {draws : List Nat} {m0 : MultiEnv}
    (hfix : ∀ I n d, generateFixed p p.jobsRange.2 p.machinesRange.2 draws = .ok (I, n, d) → P I)
    (hmk : MultiEnv.make p ec F draws = some m0) :
    ∃ I0 n d, generateFixed p p.jobsRange.2 p.machinesRange.2 draws = .ok (I0, n, d) ∧
      (FeatsOK ec.feats → m0.space = spaceOf I0 ec) ∧ MInv P p ec F m0.space m0 := by
  unfold MultiEnv.make at hmk
  split at hmk
  · cases hmk
  next I n d hg =>
  split at hmk
  · cases hmk
  next env hm =>
  cases hmk
  exact ⟨I, n, d, hg, fun hf => make_space hf hm, rfl, rfl, rfl, rfl, I, env, [], hfix I n d hg, hm, rfl⟩

theorem classic_minv {draws : List Nat} {m0 : MultiEnv} (hcl : Classic p) (hf : FeatsOK ec.feats)
    (hmk : MultiEnv.make p ec F draws = some m0) (evs : List MEv) :
    ∃ I0, Rect I0 p.jobsRange.2 p.machinesRange.2 ∧ m0.space = spaceOf I0 ec ∧
      MInv (RectIn p) p ec F m0.space (m0.run evs) := by
  obtain ⟨I0, _, _, hg0, hsp0, hinv0⟩ := make_minv (P := RectIn p)
    (fun I n d h => ⟨_, _, generateFixed_rect hcl h, Nat.le_refl _, Nat.le_refl _⟩) hmk
  exact ⟨I0, generateFixed_rect hcl hg0, hsp0 hf, minv_run (fun _ _ _ _ h => next_rect hcl h) hf evs m0 hinv0⟩

end

theorem reset_snd (m : MultiEnv) {I : Instance} {n : Nat} {gs' : GenState} {env : Env} {o : EObs}
    (hn : m.gs.next m.p = .ok (I, n, gs'))
    (hmk : Env.make { I := I, F := m.F } { m.ec with usePadding := m.env.ec.usePadding } = some env)
    (ho : env.reset.2 = some o) (hp : env.ec.usePadding = true) : m.reset.2 = padObs m.space o := by
  unfold MultiEnv.reset
  rw [hn]
  simp only
  rw [hmk]
  simp only
  have hp' : env.reset.1.ec.usePadding = true := hp
  rw [ho]
  simp only [hp', ↓reduceIte]

end MF

open MF in
/-- **C18 (multi-instance environment, classic generators).** For a generator without recirculation and with exactly
one machine per operation, after any sequence of resets and steps of the multi environment: a reset for which the
generator yields an instance succeeds and returns an observation of the declared space; a step that the episode's
environment accepts returns an observation of the declared space.  (The declared spaces are those of one sample instance
of maximum size: every generated instance is rectangular and no larger, so its graph has no more nodes and edges and its
feature matrices no more rows.) -/
theorem C18_multi_fits_classic (p : GenParams) (ec : EnvCfg) (F : FilterCfg) (draws : List Nat) (m0 : MultiEnv)
    (hcl : Classic p) (hf : FeatsOK ec.feats) (hpad : ec.usePadding = true)
    (hmk : MultiEnv.make p ec F draws = some m0) (evs : List MEv) :
    let m := m0.run evs
    -- reset: if the generator yields an instance, the reset succeeds and its observation is in the declared space
    (∀ I n gs', m.gs.next m.p = .ok (I, n, gs') → ∃ o, m.reset.2 = some o ∧ m0.space.containsObs o = true) ∧
    -- step: a step that the episode environment accepts yields an observation in the declared space
    (∀ j mm, (∃ env' obs r d t av, m.env.step j mm = (env', .ok obs r d t av)) →
        ∃ o r d t av, (m.step j mm).2 = .ok o r d t av ∧ m0.space.containsObs o = true) := by
  intro m
  obtain ⟨I0, hr0, hspace, hinv⟩ := classic_minv hcl hf hmk evs
  obtain ⟨I, e0, evs', ⟨J, M, hr, hJ, hM⟩, hmke, he⟩ := hinv.env
  have hecm : m.env.ec = ec := hinv.env_ec hf
  constructor
  · intro I' n gs' hnext
    have hnext' := hnext
    rw [hinv.hp] at hnext'
    obtain ⟨J', M', hr', hJ', hM'⟩ := next_rect hcl hnext'
    obtain ⟨env, hmk'⟩ := make_total hmke { I := I', F := F }
    obtain ⟨o, ho, _, hin, _⟩ := C18_observation_in_space { I := I', F := F } ec env hf hpad hmk' [.reset]
    have hsp' : env.space = spaceOf I' ec := make_space hf hmk'
    rw [hsp'] at hin
    obtain ⟨o', hpo, hco⟩ := hr'.fits hr0 hJ' hM' ec o hin
    refine ⟨o', ?_, by rw [hspace]; exact hco⟩
    have hecu : ({ m.ec with usePadding := m.env.ec.usePadding } : EnvCfg) = ec := by rw [hecm, hinv.hec]
    rw [reset_snd m hnext (by rw [hecu, hinv.hF]; exact hmk') ho
      (by rw [(Env.make_envOK hf hmk').2.2]; exact hpad), hinv.hsp, hspace]
    exact hpo
  · rintro j mm ⟨env', obs, r, d, t, av, hstep⟩
    have h18 := C18_step_returns_observation { I := I, F := F } ec e0 hf hpad hmke evs' j mm
    simp only at h18
    rw [← he, hstep] at h18
    rcases h18 with ⟨obs', r', d', t', av', hok, hin⟩ | ⟨hraised, _⟩
    · simp only [StepOut.ok.injEq] at hok
      obtain ⟨rfl, rfl, rfl, rfl, rfl⟩ := hok
      rw [make_space hf hmke] at hin
      obtain ⟨o', hpo, hco⟩ := hr.fits hr0 hJ hM ec obs hin
      refine ⟨o', r, d, t, av, ?_, by rw [hspace]; exact hco⟩
      have hpad' : env'.ec.usePadding = true := by
        have := (Env.step_ec m.env j mm).1
        rw [hstep] at this
        simp only at this
        rw [this, hecm]; exact hpad
      unfold MultiEnv.step
      rw [hstep]
      simp only [hpad', ↓reduceIte]
      rw [hinv.hsp, hspace, hpo]
    · cases hraised

/-! non-vacuity: a classic generator, an accepted configuration, a constructed multi environment whose generator yields
an instance, whose reset returns an observation and whose episode environment accepts a step -/
example :
    let p : GenParams := { jobsRange := (1, 2), machinesRange := (1, 2), durRange := (1, 9) }
    let ec : EnvCfg := { builder := .disjunctive, feats := [(.isReady, none), (.duration, some [.machines, .operations])] }
    let draws : List Nat := [5, 3, 7, 1, 2, 9, 0, 4, 4, 1, 3, 3, 8, 2, 2, 6]
    Classic p ∧ FeatsOK ec.feats ∧ ec.usePadding = true ∧ (MultiEnv.make p ec none draws).isSome = true ∧
    ((MultiEnv.make p ec none draws).map fun m =>
      (m.reset.2.isSome, (match (m.reset.1.env.step 0 (-1)).2 with | .ok _ _ _ _ _ => true | .raised => false))) =
      some (true, true) := by
  exact ⟨⟨rfl, rfl⟩, featsOK_of_all (by decide), rfl, by decide +kernel, by decide +kernel⟩

end JS
