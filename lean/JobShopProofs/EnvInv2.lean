import JobShopProofs.EnvInv
/-!
# Every callback, dispatch, reset and constructor preserves the heap invariant
-/
namespace JS

theorem keeps_withEst {I : Instance} {o : FObs} (h : o.Shaped I) (est : List (List Int)) :
    Keeps I o { o with est := est } :=
  ⟨⟨⟨h.wf.keys, h.wf.nodup⟩, h.one⟩, rfl, rfl, rfl, rfl, rfl⟩

theorem setObs_composite {w : FWorld} (hw : HeapOK w) {id : Nat} {o : FObs} (h0 : w.heap[id]? = some o)
    (hk : o.kind = .composite) :
    HeapOK (w.setObs id { o with cols := compositeCols w.heap o.parts, fts := (compositeCols w.heap o.parts).map (·.1) }) ∧
    WExt w (w.setObs id { o with cols := compositeCols w.heap o.parts, fts := (compositeCols w.heap o.parts).map (·.1) }) := by
  refine setObs_ok hw h0 _ ⟨rfl, rfl, rfl, fun h => absurd hk (single_not_res h).2⟩
    ⟨fun h => absurd hk (single_not_res h).2, (fun h => nomatch hk.symm.trans h), fun _ => ⟨w.heap, rfl, fun i hi => ?_⟩⟩
  obtain ⟨_, hc, hall⟩ := (hw id o h0).comp hk
  obtain ⟨p, q, _, hq, hs, _, _⟩ := hall i hi
  have hne : id ≠ i := by
    intro heq; subst heq
    rw [h0] at hq; cases hq
    rw [hk] at hs; cases hs
  refine ⟨q, q, hq, ?_, hs, shaped_of_heapOK hw hq hs, rfl⟩
  rw [List.getElem?_set_ne hne]; exact hq

theorem setObs_residual {w : FWorld} (hw : HeapOK w) {id : Nat} {o : FObs} (h0 : w.heap[id]? = some o)
    (hk : o.kind = .residual) (g : Graph) (hg : GInv o.graph0 → GInv g ∧ SizeLe g o.graph0) :
    HeapOK (w.setObs id { o with graph := g }) ∧ WExt w (w.setObs id { o with graph := g }) := by
  obtain ⟨_, _, hg0⟩ := (hw id o h0).res hk
  exact setObs_ok hw h0 _ ⟨rfl, rfl, rfl, fun _ => rfl⟩
    ⟨fun h => absurd hk (single_not_res h).1, fun _ => ⟨(hg hg0).1, (hg hg0).2, hg0⟩, fun h => nomatch hk.symm.trans h⟩

theorem callUpdate_ok {w : FWorld} (hw : HeapOK w) (x : SOp) (id : Nat) :
    HeapOK (w.callUpdate x id) ∧ WExt w (w.callUpdate x id) := by
  cases h0 : w.heap[id]? with
  | none => rw [callUpdate_none x h0]; exact ⟨hw, WExt.refl w⟩
  | some o =>
    rw [callUpdate_eq w x id o h0]
    unfold updObs
    split
    · rename_i hk; exact setObs_keeps hw h0 (hk ▸ rfl) (keeps_isReadyFeatures _ _)
    · rename_i hk
      exact setObs_keeps hw h0 (hk ▸ rfl) fun hsh =>
        (keeps_withEst hsh _).trans (keeps_estFeatures _ _ (keeps_withEst hsh _).shaped)
    · rename_i hk; exact setObs_keeps hw h0 (hk ▸ rfl) (keeps_durationUpdate _ _ _)
    · rename_i hk; exact setObs_keeps hw h0 (hk ▸ rfl) (keeps_isScheduledUpdate _ _ _)
    · rename_i hk; exact setObs_keeps hw h0 (hk ▸ rfl) (keeps_positionUpdate _ _)
    · rename_i hk; exact setObs_keeps hw h0 (hk ▸ rfl) (keeps_remainingUpdate _ _)
    · rename_i hk; exact setObs_keeps hw h0 (hk ▸ rfl) (keeps_isCompletedUpdate _ _ _)
    · rename_i hk; exact setObs_composite hw h0 hk
    · rename_i hk; exact setObs_plain hw h0 (Or.inl hk) ⟨rfl, rfl, rfl⟩
    · rename_i hk; exact setObs_plain hw h0 (Or.inr (Or.inl hk)) ⟨rfl, rfl, rfl⟩
    · rename_i hk; exact setObs_plain hw h0 (Or.inr (Or.inr (Or.inl hk))) ⟨rfl, rfl, rfl⟩
    · rename_i hk; exact setObs_plain hw h0 (Or.inr (Or.inr (Or.inr hk))) ⟨rfl, rfl, rfl⟩
    · rename_i hk
      exact setObs_residual hw h0 hk _ fun _ =>
        ⟨residualUpdate_inv _ _ _ _ ((hw id o h0).res hk).1, residualUpdate_sizeLe _ _ _ _ _ ((hw id o h0).res hk).2.1⟩

theorem callReset_ok {w : FWorld} (hw : HeapOK w) (id : Nat) :
    HeapOK (w.callReset id) ∧ WExt w (w.callReset id) := by
  unfold FWorld.callReset
  cases h0 : w.heap[id]? with
  | none => exact ⟨hw, WExt.refl w⟩
  | some o =>
    simp only
    split
    · rename_i hk; exact setObs_keeps hw h0 (hk ▸ rfl) (keeps_isReadyFeatures _ _)
    · rename_i hk
      exact setObs_keeps hw h0 (hk ▸ rfl) fun hsh =>
        have k2 := (keeps_withEst hsh (estCompute w.cfg.I w.s o.est)).trans
          (keeps_zeroed (I := w.cfg.I) (keeps_withEst hsh _).shaped.wf.nodup)
        k2.trans (keeps_estFeatures _ _ k2.shaped)
    · rename_i hk
      exact setObs_keeps hw h0 (hk ▸ rfl) fun hsh =>
        (keeps_zeroed (I := w.cfg.I) hsh.wf.nodup).trans
          (keeps_durationInit _ _ (keeps_zeroed (I := w.cfg.I) hsh.wf.nodup).shaped)
    · rename_i hk; exact setObs_keeps hw h0 (hk ▸ rfl) fun hsh => keeps_zeroed (I := w.cfg.I) hsh.wf.nodup
    · rename_i hk
      exact setObs_keeps hw h0 (hk ▸ rfl) fun hsh =>
        (keeps_zeroed (I := w.cfg.I) hsh.wf.nodup).trans
          (keeps_positionInit _ _ (keeps_zeroed (I := w.cfg.I) hsh.wf.nodup).shaped)
    · rename_i hk; exact resetRemaining_ok hw ⟨o, h0, hk⟩
    · rename_i hk
      have hs : o.kind.single = true := hk ▸ rfl
      obtain ⟨h1, e1, g1⟩ := getRemaining_ok hw _ ((shaped_of_heapOK hw h0 hs).wf.nodup.filter (· != .operations))
      generalize w.getRemaining (o.fts.filter (· != .operations)) = r1 at h1 e1 g1
      obtain ⟨h2, e2⟩ := resetRemaining_ok h1 g1
      obtain ⟨h3, e3⟩ := isCompletedInit_ok h2 (KindAt.ext ⟨o, h0, hk⟩ (e1.trans e2))
      exact ⟨h3, e1.trans (e2.trans e3)⟩
    · rename_i hk; exact setObs_composite hw h0 hk
    · rename_i hk; exact setObs_plain hw h0 (Or.inl hk) ⟨rfl, rfl, rfl⟩
    · rename_i hk; exact setObs_plain hw h0 (Or.inr (Or.inl hk)) ⟨rfl, rfl, rfl⟩
    · rename_i hk; exact setObs_plain hw h0 (Or.inr (Or.inr (Or.inl hk))) ⟨rfl, rfl, rfl⟩
    · rename_i hk; exact setObs_plain hw h0 (Or.inr (Or.inr (Or.inr hk))) ⟨rfl, rfl, rfl⟩
    · rename_i hk; exact setObs_residual hw h0 hk _ fun hg0 => ⟨hg0, SizeLe.refl _⟩

theorem heapOK_withS {w : FWorld} (hw : HeapOK w) (s : State) : HeapOK { w with s := s } := hw
theorem wext_withS (w : FWorld) (s : State) : WExt w { w with s := s } :=
  ⟨rfl, fun _ o h => ⟨o, h, rfl, rfl, rfl, fun _ => rfl⟩⟩

theorem foldl_ok (f : FWorld → Nat → FWorld) (hf : ∀ w id, HeapOK w → HeapOK (f w id) ∧ WExt w (f w id)) :
    ∀ (l : List Nat) (w : FWorld), HeapOK w → HeapOK (l.foldl f w) ∧ WExt w (l.foldl f w)
  | [], w, h => ⟨h, WExt.refl w⟩
  | a :: t, w, h => by
    simp only [List.foldl_cons]
    obtain ⟨h1, e1⟩ := hf w a h
    obtain ⟨h2, e2⟩ := foldl_ok f hf t _ h1
    exact ⟨h2, e1.trans e2⟩

theorem dispatch_ok' {w : FWorld} (hw : HeapOK w) (j p : Nat) (m : Option Int) :
    HeapOK (w.dispatch j p m).1 ∧ WExt w (w.dispatch j p m).1 := by
  rcases w.dispatch_req j p m with ⟨_, _, h⟩ | ⟨s', x, l, _, h⟩
  · rw [h]; exact ⟨hw, WExt.refl w⟩
  · rw [h]
    obtain ⟨h1, e1⟩ := foldl_ok (fun w id => w.callUpdate x id) (fun w id h => callUpdate_ok h x id) l
      { w with s := s' } (heapOK_withS hw s')
    exact ⟨h1, (wext_withS w s').trans e1⟩

theorem reset_ok' {w : FWorld} (hw : HeapOK w) : HeapOK w.reset ∧ WExt w w.reset := by
  unfold FWorld.reset
  obtain ⟨h1, e1⟩ := foldl_ok (fun w id => w.callReset id) (fun w id h => callReset_ok h id) w.subs
    { w with s := JS.init w.cfg.I } (heapOK_withS hw _)
  exact ⟨h1, (wext_withS w _).trans e1⟩

end JS
