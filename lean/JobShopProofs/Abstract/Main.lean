import JobShopProofs.Abstract.Move
/-!
The exchange step of C08 (`progress`): while a feasible complete assignment `T` extends an incomplete partial schedule, some
ready operation that survives the dominated-operations filter can be dispatched and re-placed in `T` so that `T` still extends
the new schedule, with the same bound on all end times.
-/
namespace JS

/-- the ready operations that machine `m1` may process, with their jobs -/
def cands (I : Instance) (s : AState) (m1 : Nat) : List (Nat × Op) :=
  (List.range I.length).filterMap fun j' =>
    (getOp I j' (s.idx j')).bind fun op' => if m1 ∈ op'.machines then some (j', op') else none

theorem mem_cands (I : Instance) (s : AState) (m1 j' : Nat) (op' : Op) :
    (j', op') ∈ cands I s m1 ↔ getOp I j' (s.idx j') = some op' ∧ m1 ∈ op'.machines := by
  simp only [cands, List.mem_filterMap, List.mem_range, Option.bind_eq_some_iff,
    Option.ite_none_right_eq_some, Option.some.injEq, Prod.mk.injEq]
  constructor
  · rintro ⟨_, _, _, hop, hm, rfl, rfl⟩; exact ⟨hop, hm⟩
  · rintro ⟨hop, hm⟩; exact ⟨j', getOp_job_lt I j' _ op' hop, op', hop, hm, rfl, rfl⟩

theorem ready_of_min {I : Instance} {s : AState} {T : Asg} (hpos : PosDur I) (hT : FeasT I T) {j1 p1 : Nat} {op1 : Op}
    (hop1 : getOp I j1 p1 = some op1) (hund1 : s.idx j1 ≤ p1)
    (hmin : ∀ j' p' op', getOp I j' p' = some op' → s.idx j' ≤ p' → T.st j1 p1 ≤ T.st j' p') :
    s.idx j1 = p1 := by
  cases p1 with
  | zero => exact Nat.le_zero.1 hund1
  | succ q =>
    refine Nat.le_antisymm hund1 (Nat.not_lt.1 fun hlt => ?_)
    obtain ⟨opq, hq⟩ := getOp_pred I j1 q op1 hop1
    have h1 := hT.prec j1 q opq op1 hq hop1
    have h2 := hmin j1 q opq hq (Nat.le_of_lt_succ hlt)
    have h3 := hpos j1 q opq hq
    omega

theorem progress {I : Instance} {s : AState} {T : Asg} {B : Int}
    (hpos : PosDur I) (hinv : AInv I s) (hT : FeasT I T) (hext : Ext I s T) (hB : BoundT I T B)
    (hinc : ∃ j p, Undisp I s j p) :
    ∃ j p m op T', Ready I s j p ∧ getOp I j p = some op ∧ NonDom I s j p ∧ m ∈ op.machines ∧
      FeasT I T' ∧ Ext I (dispA s j p m op) T' ∧ BoundT I T' B := by
  -- the undispatched operation with the smallest start in T, and its machine there
  obtain ⟨j, p, hjp⟩ := hinc
  obtain ⟨⟨j1, p1⟩, hmem, hmin⟩ :=
    exists_min (fun jp : Nat × Nat => T.st jp.1 jp.2) (undisp I s) (List.ne_nil_of_mem (mem_undisp.2 hjp))
  obtain ⟨⟨op1, hop1⟩, hund1⟩ := mem_undisp.1 hmem
  have hmin' : ∀ j' p' op', getOp I j' p' = some op' → s.idx j' ≤ p' → T.st j1 p1 ≤ T.st j' p' :=
    fun j' p' op' hop' hle => hmin (j', p') (mem_undisp.2 ⟨⟨op', hop'⟩, hle⟩)
  have hd1 : 0 < op1.dur := hpos j1 p1 op1 hop1
  have hidx1 : s.idx j1 = p1 := ready_of_min hpos hT hop1 hund1 hmin'
  have helig1 := hT.elig j1 p1 op1 hop1
  have hs1 : startA s j1 (T.mach j1 p1) ≤ T.st j1 p1 :=
    Int.max_le.2 ⟨hext.later j1 p1 op1 hop1 hund1, jN_le_st hinv hT hext j1 p1 op1 hidx1 hop1⟩
  generalize hm1 : T.mach j1 p1 = m1 at helig1 hs1
  by_cases hA : ∃ j' op', getOp I j' (s.idx j') = some op' ∧ m1 ∈ op'.machines ∧
      startA s j' m1 + op'.dur ≤ startA s j1 m1
  · -- some ready operation fits entirely before it on that machine: dispatch the one ending first, which ends
    -- before any undispatched operation starts in T
    obtain ⟨j0, op0, h01, h02, h03⟩ := hA
    have hc0 := (mem_cands I s m1 j0 op0).2 ⟨h01, h02⟩
    obtain ⟨⟨j2, op2⟩, hc2, hcmin⟩ :=
      exists_min (fun c : Nat × Op => startA s c.1 m1 + c.2.dur) (cands I s m1) (List.ne_nil_of_mem hc0)
    obtain ⟨hop2, hm2⟩ := (mem_cands I s m1 j2 op2).1 hc2
    have hle : ∀ X, T.st j1 p1 ≤ X → startA s j2 m1 + op2.dur ≤ X := fun X h =>
      Int.le_trans (Int.le_trans (Int.le_trans (hcmin _ hc0) h03) hs1) h
    have hmv := move_ok hpos hinv hT hext hB j2 (s.idx j2) m1 op2 hop2 rfl hm2
      (fun j' p' op' hop' hle' _ _ => hle _ (hmin' j' p' op' hop' hle'))
      (fun op' hop' => hle _ (hmin' j2 (s.idx j2 + 1) op' hop' (Nat.le_succ _)))
      (hle B (Int.le_trans (Int.le_add_of_nonneg_right (Int.le_of_lt hd1)) (hB j1 p1 op1 hop1)))
    refine ⟨j2, s.idx j2, m1, op2, _, ⟨rfl, Option.isSome_of_eq_some hop2⟩, hop2, ?_, hm2, hmv⟩
    exact ⟨op2, hop2, m1, hm2, fun j'' op'' h1 h2 =>
      Int.lt_of_lt_of_le (Int.lt_add_of_pos_right _ (hpos j2 _ op2 hop2))
        (hcmin (j'', op'') ((mem_cands I s m1 j'' op'').2 ⟨h1, h2⟩))⟩
  · -- otherwise the minimal operation survives the filter: dispatch it on its machine in T
    have hle : ∀ X, T.st j1 p1 + op1.dur ≤ X → startA s j1 m1 + op1.dur ≤ X := fun X h =>
      Int.le_trans (Int.add_le_add_right hs1 _) h
    have hmv := move_ok hpos hinv hT hext hB j1 p1 m1 op1 hop1 hidx1 helig1
      (fun j' p' op' hop' hle' hne' hmach =>
        -- in T the other operation of the machine cannot end before the minimal one starts
        (hT.disj j1 p1 op1 j' p' op' hop1 hop' (fun h => hne' ⟨(Prod.mk.inj h).1.symm, (Prod.mk.inj h).2.symm⟩)
          (hm1.trans hmach.symm)).elim (hle _) fun h =>
            absurd (Int.le_trans h (hmin' j' p' op' hop' hle'))
              (Int.not_le.2 (Int.lt_add_of_pos_right _ (hpos j' p' op' hop'))))
      (fun op' hop' => hle _ (hT.prec j1 p1 op1 op' hop1 hop'))
      (hle B (hB j1 p1 op1 hop1))
    exact ⟨j1, p1, m1, op1, _, ⟨hidx1, Option.isSome_of_eq_some hop1⟩, hop1,
      ⟨op1, hop1, m1, helig1, fun j' op' h1 h2 => Int.not_le.1 fun h => hA ⟨j', op', h1, h2, h⟩⟩, helig1, hmv⟩

end JS
