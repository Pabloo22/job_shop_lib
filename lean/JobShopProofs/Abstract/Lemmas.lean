import JobShopProofs.Abstract.Basic
namespace JS

theorem exists_min {α} (f : α → Int) : ∀ (l : List α), l ≠ [] → ∃ a ∈ l, ∀ b ∈ l, f a ≤ f b
  | [], h => absurd rfl h
  | [a], _ => ⟨a, by simp, by simp⟩
  | a :: b :: t, _ => by
    obtain ⟨c, hc, hmin⟩ := exists_min f (b :: t) (by simp)
    by_cases h : f a ≤ f c
    · refine ⟨a, by simp, ?_⟩
      intro x hx
      rcases List.mem_cons.1 hx with rfl | hx
      · omega
      · have := hmin x hx; omega
    · refine ⟨c, List.mem_cons_of_mem _ hc, ?_⟩
      intro x hx
      rcases List.mem_cons.1 hx with rfl | hx
      · omega
      · exact hmin x hx

theorem foldl_skip_of_fixed {α β} (f : β → α → β) (b : β) (l₁ l₂ : List α) (a : α)
    (h : f (l₁.foldl f b) a = l₁.foldl f b) : (l₁ ++ a :: l₂).foldl f b = (l₁ ++ l₂).foldl f b := by
  rw [List.foldl_append, List.foldl_cons, h, List.foldl_append]

theorem getOp_eq_some_iff {I : Instance} {j p : Nat} {op : Op} :
    getOp I j p = some op ↔ ∃ job, I[j]? = some job ∧ job[p]? = some op :=
  Option.bind_eq_some_iff

theorem mem_of_getOp {I : Instance} {j p : Nat} {op : Op} (h : getOp I j p = some op) : ∃ job ∈ I, op ∈ job :=
  let ⟨job, hj, hp⟩ := getOp_eq_some_iff.1 h
  ⟨job, List.mem_of_getElem? hj, List.mem_of_getElem? hp⟩

theorem getOp_job_lt (I : Instance) (j p : Nat) (op : Op) (h : getOp I j p = some op) : j < I.length :=
  let ⟨_, hj, _⟩ := getOp_eq_some_iff.1 h
  (List.getElem?_eq_some_iff.1 hj).1

theorem getD_length_of_getOp {I : Instance} {j p : Nat} : (getOp I j p).isSome ↔ p < (I.getD j []).length := by
  rw [getOp, List.getD_eq_getElem?_getD]
  cases I[j]? <;> simp

theorem getOp_pred (I : Instance) (j p : Nat) (op : Op) (h : getOp I j (p+1) = some op) :
    ∃ op', getOp I j p = some op' :=
  Option.isSome_iff_exists.1 <| getD_length_of_getOp.2 <| Nat.lt_of_succ_lt <|
    getD_length_of_getOp.1 (Option.isSome_of_eq_some h)

theorem mem_flatMap_refs (I : Instance) (f : Nat → List Nat) (hf : ∀ j p, p ∈ f j → p < (I.getD j []).length)
    (r : OpRef) : r ∈ (List.range I.length).flatMap (fun j => (f j).map fun p => (j, p)) ↔ r.2 ∈ f r.1 := by
  obtain ⟨j, p⟩ := r
  simp only [List.mem_flatMap, List.mem_range, List.mem_map, Prod.mk.injEq]
  constructor
  · rintro ⟨_, _, _, hp, rfl, rfl⟩; exact hp
  · intro hp
    refine ⟨j, Nat.lt_of_not_le fun hj => ?_, p, hp, rfl, rfl⟩
    have := hf j p hp
    rw [List.getD_eq_getElem?_getD, List.getElem?_eq_none hj] at this
    exact Nat.not_lt_zero _ this

theorem mem_allOps' (I : Instance) (r : OpRef) : r ∈ allOps I ↔ (getOp I r.1 r.2).isSome := by
  rw [getD_length_of_getOp, ← List.mem_range]
  exact mem_flatMap_refs I _ (fun _ _ => List.mem_range.1) r

theorem mem_allOps (I : Instance) (j p : Nat) : (j, p) ∈ allOps I ↔ ∃ op, getOp I j p = some op :=
  (mem_allOps' I (j, p)).trans Option.isSome_iff_exists

theorem sum_nonneg_of {l : List Int} (h : ∀ x ∈ l, 0 ≤ x) : 0 ≤ l.sum := by
  induction l with
  | nil => simp
  | cons a t ih =>
    simp only [List.sum_cons]
    have := h a (by simp)
    have := ih (fun x hx => h x (by simp [hx]))
    omega

end JS
