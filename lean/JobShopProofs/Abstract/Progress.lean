import JobShopProofs.Abstract.Inv
namespace JS

def Undisp (I : Instance) (s : AState) (j p : Nat) : Prop := (∃ op, getOp I j p = some op) ∧ s.idx j ≤ p

def undisp (I : Instance) (s : AState) : List OpRef := (allOps I).filter fun jp => decide (s.idx jp.1 ≤ jp.2)

theorem mem_undisp {I : Instance} {s : AState} {j p : Nat} : (j, p) ∈ undisp I s ↔ Undisp I s j p := by
  simp only [undisp, List.mem_filter, decide_eq_true_eq, mem_allOps, Undisp]

def updT (T : Asg) (j p m : Nat) (t : Int) : Asg :=
  { mach := fun a b => if a = j ∧ b = p then m else T.mach a b,
    st := fun a b => if a = j ∧ b = p then t else T.st a b }

@[simp] theorem updT_mach_same (T j p m t) : (updT T j p m t).mach j p = m := by simp [updT]
@[simp] theorem updT_st_same (T j p m t) : (updT T j p m t).st j p = t := by simp [updT]

theorem updT_cases (T : Asg) (j p m : Nat) (t : Int) (a b : Nat) :
    (a = j ∧ b = p) ∧ (updT T j p m t).mach a b = m ∧ (updT T j p m t).st a b = t ∨
    ¬ (a = j ∧ b = p) ∧ (updT T j p m t).mach a b = T.mach a b ∧ (updT T j p m t).st a b = T.st a b := by
  by_cases h : a = j ∧ b = p
  · exact .inl ⟨h, if_pos h, if_pos h⟩
  · exact .inr ⟨h, if_neg h, if_neg h⟩

/-- Re-placing one operation of a feasible assignment keeps it feasible if the new slot respects the job's
neighbours and the other operations of the new machine. -/
theorem FeasT.updT {I : Instance} {T : Asg} (hT : FeasT I T) {j2 p2 m : Nat} {op2 : Op} {t : Int}
    (hop2 : getOp I j2 p2 = some op2) (hm : m ∈ op2.machines) (h0 : 0 ≤ t)
    (hpred : ∀ q op, q + 1 = p2 → getOp I j2 q = some op → T.st j2 q + op.dur ≤ t)
    (hsucc : ∀ op, getOp I j2 (p2+1) = some op → t + op2.dur ≤ T.st j2 (p2+1))
    (hdisj : ∀ j p op, getOp I j p = some op → ¬ (j = j2 ∧ p = p2) → T.mach j p = m →
      t + op2.dur ≤ T.st j p ∨ T.st j p + op.dur ≤ t) :
    FeasT I (JS.updT T j2 p2 m t) where
  elig j p op hop := by
    rcases updT_cases T j2 p2 m t j p with ⟨⟨rfl, rfl⟩, e, _⟩ | ⟨_, e, _⟩ <;> rw [e]
    · exact Option.some.inj (hop2.symm.trans hop) ▸ hm
    · exact hT.elig j p op hop
  nonneg j p op hop := by
    rcases updT_cases T j2 p2 m t j p with ⟨_, _, e⟩ | ⟨_, _, e⟩ <;> rw [e]
    · exact h0
    · exact hT.nonneg j p op hop
  prec j p op op' hop hop' := by
    rcases updT_cases T j2 p2 m t j p with ⟨h, _, e⟩ | ⟨_, _, e⟩ <;>
      rcases updT_cases T j2 p2 m t j (p+1) with ⟨h', _, e'⟩ | ⟨_, _, e'⟩ <;> rw [e, e']
    · exact absurd (h'.2.trans h.2.symm) (Nat.succ_ne_self p)
    · obtain ⟨rfl, rfl⟩ := h
      cases hop2.symm.trans hop
      exact hsucc op' hop'
    · obtain ⟨rfl, h'⟩ := h'
      exact hpred p op h' hop
    · exact hT.prec j p op op' hop hop'
  disj j p op j' p' op' hop hop' hne hmach := by
    rcases updT_cases T j2 p2 m t j p with ⟨h, em, es⟩ | ⟨h, em, es⟩ <;>
      rcases updT_cases T j2 p2 m t j' p' with ⟨h', em', es'⟩ | ⟨h', em', es'⟩ <;>
      rw [em, em'] at hmach <;> rw [es, es']
    · exact absurd (by rw [h.1, h.2, h'.1, h'.2]) hne
    · obtain ⟨rfl, rfl⟩ := h
      cases hop2.symm.trans hop
      exact hdisj j' p' op' hop' h' hmach.symm
    · obtain ⟨rfl, rfl⟩ := h'
      cases hop2.symm.trans hop'
      exact (hdisj j p op hop h hmach).symm
    · exact hT.disj j p op j' p' op' hop hop' hne hmach

theorem dispatched_facts {I s T} (hinv : AInv I s) (hext : Ext I s T) (j p : Nat) (op : Op)
    (hop : getOp I j p = some op) (hlt : p < s.idx j) :
    T.st j p + op.dur ≤ s.mN (T.mach j p) ∧ (s.idx j = p + 1 → s.jN j = T.st j p + op.dur) := by
  obtain ⟨x, hx, hj, hp⟩ := hinv.idx_sched j p hlt
  obtain ⟨op', hop', hd⟩ := hinv.sched_op x hx
  obtain ⟨hm, hs⟩ := hext.agree x hx
  rw [hj, hp] at hop' hm hs
  cases hop.symm.trans hop'
  have he : x.end_ = T.st j p + op.dur := by rw [SOp.end_, hs, hd]
  constructor
  · rw [hm, ← he]; exact hinv.mN_ge x hx
  · intro hi
    rw [← he, ← hj]
    exact hinv.jN_last x hx (by rw [hj, hp, hi])

theorem jN_le_st {I s T} (hinv : AInv I s) (hT : FeasT I T) (hext : Ext I s T) (j p : Nat) (op : Op)
    (hidx : s.idx j = p) (hop : getOp I j p = some op) : s.jN j ≤ T.st j p := by
  cases p with
  | zero => rw [hinv.jN_zero j hidx]; exact hT.nonneg j 0 op hop
  | succ q =>
    obtain ⟨opq, hq⟩ := getOp_pred I j q op hop
    have := (dispatched_facts hinv hext j q opq hq (by omega)).2 hidx
    have h2 := hT.prec j q opq op hq hop
    omega

end JS
