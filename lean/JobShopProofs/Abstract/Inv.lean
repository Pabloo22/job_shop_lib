import JobShopProofs.Abstract.Lemmas
namespace JS

theorem ainv_init (I : Instance) : AInv I ainit := by
  constructor <;> simp [ainit]

theorem startA_ge_jN (s : AState) (j m : Nat) : s.jN j ≤ startA s j m := by unfold startA; omega
theorem startA_ge_mN (s : AState) (j m : Nat) : s.mN m ≤ startA s j m := by unfold startA; omega

section dispA
variable {s : AState} {j p m : Nat} {op : Op}

theorem dispA_idx (k : Nat) : (dispA s j p m op).idx k = if k = j then p + 1 else s.idx k := rfl
theorem dispA_mN (k : Nat) : (dispA s j p m op).mN k = if k = m then startA s j m + op.dur else s.mN k := rfl
theorem dispA_jN (k : Nat) : (dispA s j p m op).jN k = if k = j then startA s j m + op.dur else s.jN k := rfl

theorem mem_dispA_sched {x : SOp} :
    x ∈ (dispA s j p m op).sched ↔ x ∈ s.sched ∨ x = ⟨j, p, m, startA s j m, op.dur⟩ := by
  simp only [dispA, List.mem_append, List.mem_singleton]

theorem forall_mem_dispA {P : SOp → Prop} :
    (∀ x ∈ (dispA s j p m op).sched, P x) ↔ (∀ x ∈ s.sched, P x) ∧ P ⟨j, p, m, startA s j m, op.dur⟩ :=
  ⟨fun h => ⟨fun x hx => h x (mem_dispA_sched.2 (.inl hx)), h _ (mem_dispA_sched.2 (.inr rfl))⟩,
   fun h x hx => (mem_dispA_sched.1 hx).elim (h.1 x) fun e => e ▸ h.2⟩

theorem lt_dispA_idx (h : s.idx j = p) {j' p' : Nat} :
    p' < (dispA s j p m op).idx j' ↔ p' < s.idx j' ∨ (j' = j ∧ p' = p) := by
  rw [dispA_idx]
  split
  · next e => subst e; omega
  · omega

theorem le_dispA_mN (hd : 0 ≤ op.dur) (k : Nat) : s.mN k ≤ (dispA s j p m op).mN k := by
  rw [dispA_mN]
  split
  · next e => subst e; have := startA_ge_mN s j k; omega
  · exact Int.le_refl _

theorem le_dispA_jN (hd : 0 ≤ op.dur) (k : Nat) : s.jN k ≤ (dispA s j p m op).jN k := by
  rw [dispA_jN]
  split
  · next e => subst e; have := startA_ge_jN s k m; omega
  · exact Int.le_refl _

end dispA

theorem ainv_step (I : Instance) (s : AState) (hinv : AInv I s) (j p m : Nat) (op : Op)
    (hidx : s.idx j = p) (hop : getOp I j p = some op) (hd : 0 ≤ op.dur) : AInv I (dispA s j p m op) := by
  have hend : 0 ≤ startA s j m + op.dur := by
    have := hinv.jN_nonneg j
    have := startA_ge_jN s j m
    omega
  -- the job's earlier operations are the ones scheduled so far
  have hlt : ∀ x ∈ s.sched, x.job = j → x.pos < p := fun x hx e => hidx ▸ e ▸ hinv.sched_lt x hx
  exact {
    sched_lt := forall_mem_dispA.2
      ⟨fun x hx => (lt_dispA_idx hidx).2 (.inl (hinv.sched_lt x hx)), (lt_dispA_idx hidx).2 (.inr ⟨rfl, rfl⟩)⟩
    sched_op := forall_mem_dispA.2 ⟨hinv.sched_op, op, hop, rfl⟩
    idx_sched := fun j' p' h => ((lt_dispA_idx hidx).1 h).elim
      (fun h => let ⟨x, hx, e⟩ := hinv.idx_sched j' p' h; ⟨x, mem_dispA_sched.2 (.inl hx), e⟩)
      (fun e => ⟨_, mem_dispA_sched.2 (.inr rfl), e.1.symm, e.2.symm⟩)
    uniq := forall_mem_dispA.2
      ⟨fun x hx => forall_mem_dispA.2
        ⟨hinv.uniq x hx, fun hj hp => absurd hp (Nat.ne_of_lt (hlt x hx hj))⟩,
       forall_mem_dispA.2 ⟨fun y hy hj hp => absurd hp.symm (Nat.ne_of_lt (hlt y hy hj.symm)), fun _ _ => rfl⟩⟩
    mN_ge := forall_mem_dispA.2
      ⟨fun x hx => Int.le_trans (hinv.mN_ge x hx) (le_dispA_mN hd _), Int.le_of_eq (upd_same _ _ _).symm⟩
    jN_last := forall_mem_dispA.2 ⟨fun x hx h => by
        rw [dispA_idx] at h
        rw [dispA_jN]
        split at h
        · next e => have := hlt x hx e; omega
        · next e => rw [if_neg e]; exact hinv.jN_last x hx h,
      fun _ => upd_same _ _ _⟩
    jN_zero := fun j' h => by
      rw [dispA_idx] at h
      rw [dispA_jN]
      split at h
      · omega
      · next e => rw [if_neg e]; exact hinv.jN_zero j' h
    idx_valid := fun j' p' h => ((lt_dispA_idx hidx).1 h).elim (hinv.idx_valid j' p')
      fun e => by rw [e.1, e.2, hop]; rfl
    jN_nonneg := fun j' => by
      rw [dispA_jN]
      split
      · exact hend
      · exact hinv.jN_nonneg j'
    mN_nonneg := fun m' => by
      rw [dispA_mN]
      split
      · exact hend
      · exact hinv.mN_nonneg m' }

end JS
