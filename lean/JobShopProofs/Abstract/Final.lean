import JobShopProofs.Abstract.Main
/-!
# C08 on the abstract state

Induction on the number of operations still to dispatch: `progress` (the exchange argument) supplies, in a state that some
feasible assignment `T` extends, a dispatch the filter keeps and an assignment that extends the new state within the same bound.
-/
namespace JS

theorem filter_length_lt {α} (P Q : α → Bool) (l : List α) (himp : ∀ a ∈ l, Q a = true → P a = true)
    (h : ∃ a ∈ l, P a = true ∧ Q a = false) : (l.filter Q).length < (l.filter P).length := by
  have hQ : l.filter Q = (l.filter P).filter Q := by
    rw [List.filter_filter]
    refine List.filter_congr fun a ha => ?_
    cases hq : Q a
    · rfl
    · rw [himp a ha hq]; rfl
  obtain ⟨a, ha, hPa, hQa⟩ := h
  rw [hQ, List.length_filter_lt_length_iff_exists]
  exact ⟨a, List.mem_filter.2 ⟨ha, hPa⟩, by simp [hQa]⟩

def remaining (I : Instance) (s : AState) : Nat := (undisp I s).length

theorem remaining_step (I : Instance) (s : AState) (j p m : Nat) (op : Op)
    (hidx : s.idx j = p) (hop : getOp I j p = some op) :
    remaining I (dispA s j p m op) < remaining I s := by
  refine filter_length_lt _ _ _ (fun a _ h => ?_) ⟨(j, p), (mem_allOps I j p).2 ⟨op, hop⟩, ?_, ?_⟩
  · exact decide_eq_true (Nat.not_lt.1 fun h' =>
      Nat.not_lt.2 (of_decide_eq_true h) ((lt_dispA_idx hidx).2 (.inl h')))
  · exact decide_eq_true (Nat.le_of_eq hidx)
  · exact decide_eq_false (Nat.not_le.2 ((lt_dispA_idx hidx).2 (.inr ⟨rfl, rfl⟩)))

theorem ext_init (I : Instance) (T : Asg) (hT : FeasT I T) : Ext I ainit T := by
  constructor
  · intro x hx; simp [ainit] at hx
  · intro j p op hop _; simp [ainit]; exact hT.nonneg j p op hop

theorem reach_complete (I : Instance) (hpos : PosDur I) (B : Int) :
    ∀ (n : Nat) (s : AState) (T : Asg), remaining I s = n → FReach I s → AInv I s → FeasT I T → Ext I s T →
      BoundT I T B →
      ∃ s', FReach I s' ∧ AInv I s' ∧ (∀ j p, ¬ Undisp I s' j p) ∧ ∀ x ∈ s'.sched, x.end_ ≤ B := by
  intro n
  induction n using Nat.strongRecOn with
  | _ n ih =>
    intro s T hn hreach hinv hT hext hB
    by_cases hinc : ∃ j p, Undisp I s j p
    · obtain ⟨j, p, m, op, T', hr, hop, hnd, hm, hT', hext', hB'⟩ := progress hpos hinv hT hext hB hinc
      have hlt := remaining_step I s j p m op hr.1 hop
      exact ih (remaining I (dispA s j p m op)) (by omega) _ T' rfl
        (FReach.step hreach hr hop hnd hm) (ainv_step I s hinv j p m op hr.1 hop (Int.le_of_lt (hpos j p op hop))) hT' hext' hB'
    · refine ⟨s, hreach, hinv, ?_, ?_⟩
      · intro j p h; exact hinc ⟨j, p, h⟩
      · intro x hx
        obtain ⟨op, hop, hd⟩ := hinv.sched_op x hx
        obtain ⟨_, hs⟩ := hext.agree x hx
        have := hB x.job x.pos op hop
        simp [SOp.end_]; omega

/-- C08 (abstract level): every feasible complete assignment is matched or beaten by a history that only ever
dispatches operations surviving the dominated-operations filter. -/
theorem C08_pruned_reaches (I : Instance) (hpos : PosDur I) (T : Asg) (hT : FeasT I T) (B : Int)
    (hB : BoundT I T B) :
    ∃ s, FReach I s ∧ AInv I s ∧ (∀ j p, ¬ Undisp I s j p) ∧ ∀ x ∈ s.sched, x.end_ ≤ B :=
  reach_complete I hpos B _ ainit T rfl FReach.init (ainv_init I) hT (ext_init I T hT) hB

end JS
