import JobShopProofs.Abstract.Progress
namespace JS

/-- Moving a ready operation to the slot the dispatcher gives it keeps the extension invariant. -/
theorem move_ok {I : Instance} {s : AState} {T : Asg} {B : Int}
    (hpos : PosDur I) (hinv : AInv I s) (hT : FeasT I T) (hext : Ext I s T) (hB : BoundT I T B)
    (j2 p2 m : Nat) (op2 : Op) (hop2 : getOp I j2 p2 = some op2) (hidx : s.idx j2 = p2) (hm : m ∈ op2.machines)
    (h_end : ∀ j' p' op', getOp I j' p' = some op' → s.idx j' ≤ p' → ¬ (j' = j2 ∧ p' = p2) →
        T.mach j' p' = m → startA s j2 m + op2.dur ≤ T.st j' p')
    (h_succ : ∀ op', getOp I j2 (p2+1) = some op' → startA s j2 m + op2.dur ≤ T.st j2 (p2+1))
    (h_bound : startA s j2 m + op2.dur ≤ B) :
    FeasT I (updT T j2 p2 m (startA s j2 m)) ∧
    Ext I (dispA s j2 p2 m op2) (updT T j2 p2 m (startA s j2 m)) ∧
    BoundT I (updT T j2 p2 m (startA s j2 m)) B := by
  have hsj := startA_ge_jN s j2 m
  have hsm := startA_ge_mN s j2 m
  refine ⟨hT.updT hop2 hm (Int.le_trans (hinv.jN_nonneg j2) hsj) (fun q op e hop => ?_) h_succ
      fun j' p' op' hop' h' hmach => ?_,
    ⟨forall_mem_dispA.2 ⟨fun x hx => ?_, updT_mach_same .., updT_st_same ..⟩, fun j p op hop hle => ?_⟩,
    fun j p op hop => ?_⟩
  · exact (dispatched_facts hinv hext j2 q op hop (hidx ▸ e ▸ Nat.lt_succ_self q)).2 (hidx.trans e.symm) ▸ hsj
  · -- on machine `m` the dispatched operations end before the moved one starts, the others start after it ends
    by_cases hdis : p' < s.idx j'
    · exact .inr (Int.le_trans (hmach ▸ (dispatched_facts hinv hext j' p' op' hop' hdis).1) hsm)
    · exact .inl (h_end j' p' op' hop' (Nat.not_lt.1 hdis) h' hmach)
  · rcases updT_cases T j2 p2 m (startA s j2 m) x.job x.pos with ⟨⟨h1, h2⟩, _⟩ | ⟨_, em, es⟩
    · exact absurd (hinv.sched_lt x hx) (by rw [h1, hidx, h2]; exact Nat.lt_irrefl p2)
    · rw [em, es]; exact hext.agree x hx
  · have hn := mt (lt_dispA_idx hidx).2 (Nat.not_lt.2 hle)
    have hund : s.idx j ≤ p := Nat.not_lt.1 fun h => hn (.inl h)
    rcases updT_cases T j2 p2 m (startA s j2 m) j p with ⟨h, _⟩ | ⟨h, em, es⟩
    · exact absurd (.inr h) hn
    · rw [em, es, dispA_mN]
      split
      · next hmm => exact h_end j p op hop hund h hmm
      · exact hext.later j p op hop hund
  · rcases updT_cases T j2 p2 m (startA s j2 m) j p with ⟨⟨rfl, rfl⟩, _, e⟩ | ⟨_, _, e⟩ <;> rw [e]
    · cases hop2.symm.trans hop; exact h_bound
    · exact hB j p op hop

end JS
