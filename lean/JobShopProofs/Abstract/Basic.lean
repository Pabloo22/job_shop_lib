import JobShopModel.Basic
/-!
# Abstract (functional) dispatcher state

History-quantified theorems are proved on this state: tracking vectors are total functions (function
update instead of `List.set`/`getD`), the schedule is the flat list of scheduled operations in dispatch
order.  `JobShopProofs/Refine.lean` relates the concrete list-based `JS.State` of the executable model to
it (`Rel`, `rel_dispatch`).
-/
namespace JS

structure AState where
  idx : Nat → Nat
  mN : Nat → Int
  jN : Nat → Int
  sched : List SOp

def upd {β} (f : Nat → β) (a : Nat) (b : β) : Nat → β := fun x => if x = a then b else f x

@[simp] theorem upd_same {β} (f : Nat → β) (a : Nat) (b : β) : upd f a b a = b := by simp [upd]
theorem upd_other {β} (f : Nat → β) (a : Nat) (b : β) (x : Nat) (h : x ≠ a) : upd f a b x = f x := by simp [upd, h]

def ainit : AState := { idx := fun _ => 0, mN := fun _ => 0, jN := fun _ => 0, sched := [] }

def startA (s : AState) (j m : Nat) : Int := max (s.mN m) (s.jN j)

/-- accepted dispatch of (j,p) on m -/
def dispA (s : AState) (j p m : Nat) (op : Op) : AState :=
  let so : SOp := ⟨j, p, m, startA s j m, op.dur⟩
  { idx := upd s.idx j (p+1), mN := upd s.mN m so.end_, jN := upd s.jN j so.end_, sched := s.sched ++ [so] }

def PosDur (I : Instance) : Prop := ∀ j p op, getOp I j p = some op → 0 < op.dur

/-- ready = next op of its job -/
def Ready (I : Instance) (s : AState) (j p : Nat) : Prop := s.idx j = p ∧ (getOp I j p).isSome

/-- not dominated w.r.t. the whole ready set (criterion of `filter_dominated_operations`, positive durations) -/
def NonDom (I : Instance) (s : AState) (j p : Nat) : Prop :=
  ∃ op, getOp I j p = some op ∧ ∃ m ∈ op.machines,
    ∀ j' op', getOp I j' (s.idx j') = some op' → m ∈ op'.machines → startA s j m < startA s j' m + op'.dur

inductive FReach (I : Instance) : AState → Prop
  | init : FReach I ainit
  | step {s j p m op} : FReach I s → Ready I s j p → getOp I j p = some op → NonDom I s j p →
      m ∈ op.machines → FReach I (dispA s j p m op)

structure Asg where
  mach : Nat → Nat → Nat
  st : Nat → Nat → Int

structure FeasT (I : Instance) (T : Asg) : Prop where
  elig : ∀ j p op, getOp I j p = some op → T.mach j p ∈ op.machines
  nonneg : ∀ j p op, getOp I j p = some op → 0 ≤ T.st j p
  prec : ∀ j p op op', getOp I j p = some op → getOp I j (p+1) = some op' → T.st j p + op.dur ≤ T.st j (p+1)
  disj : ∀ j p op j' p' op', getOp I j p = some op → getOp I j' p' = some op' → (j, p) ≠ (j', p') →
      T.mach j p = T.mach j' p' → T.st j p + op.dur ≤ T.st j' p' ∨ T.st j' p' + op'.dur ≤ T.st j p

def BoundT (I : Instance) (T : Asg) (B : Int) : Prop := ∀ j p op, getOp I j p = some op → T.st j p + op.dur ≤ B

structure AInv (I : Instance) (s : AState) : Prop where
  sched_lt : ∀ x ∈ s.sched, x.pos < s.idx x.job
  sched_op : ∀ x ∈ s.sched, ∃ op, getOp I x.job x.pos = some op ∧ x.dur = op.dur
  idx_sched : ∀ j p, p < s.idx j → ∃ x ∈ s.sched, x.job = j ∧ x.pos = p
  uniq : ∀ x ∈ s.sched, ∀ y ∈ s.sched, x.job = y.job → x.pos = y.pos → x = y
  mN_ge : ∀ x ∈ s.sched, x.end_ ≤ s.mN x.machine
  jN_last : ∀ x ∈ s.sched, x.pos + 1 = s.idx x.job → s.jN x.job = x.end_
  jN_zero : ∀ j, s.idx j = 0 → s.jN j = 0
  idx_valid : ∀ j p, p < s.idx j → (getOp I j p).isSome
  jN_nonneg : ∀ j, 0 ≤ s.jN j
  mN_nonneg : ∀ m, 0 ≤ s.mN m

/-- T extends the partial schedule s -/
structure Ext (I : Instance) (s : AState) (T : Asg) : Prop where
  agree : ∀ x ∈ s.sched, T.mach x.job x.pos = x.machine ∧ T.st x.job x.pos = x.start
  later : ∀ j p op, getOp I j p = some op → s.idx j ≤ p → s.mN (T.mach j p) ≤ T.st j p

end JS
