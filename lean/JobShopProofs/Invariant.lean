import JobShopProofs.Refine
/-!
# The reachable-state invariant of the dispatcher

`AInv`/`AInv2` are permutation-invariant facts about the abstract state; `CInv` adds what is specific
to the per-machine lists of the concrete state (each list holds its own machine's operations, in time
order, and the machine's next-available time is the end of its last operation).  `cinv_dispatch`:
preserved by every accepted dispatch; `dispatch_accepts`: a ready operation on an eligible machine is
always accepted (the `Schedule.add` check never fires).
-/
namespace JS

structure AInv2 (I : Instance) (a : AState) : Prop where
  elig : ∀ x ∈ a.sched, ∀ op, getOp I x.job x.pos = some op → x.machine ∈ op.machines
  start_nonneg : ∀ x ∈ a.sched, 0 ≤ x.start
  dur_nonneg : ∀ x ∈ a.sched, 0 ≤ x.dur
  jN_ge : ∀ x ∈ a.sched, x.end_ ≤ a.jN x.job
  keys_nodup : (a.sched.map fun x => (x.job, x.pos)).Nodup
  idx_count : ∀ j, (a.sched.filter fun x => x.job == j).length = a.idx j
  jobOrder : ∀ x ∈ a.sched, ∀ y ∈ a.sched, x.job = y.job → x.pos < y.pos → x.end_ ≤ y.start

theorem ainv2_init (I : Instance) : AInv2 I ainit := by
  constructor <;> simp [ainit]

theorem ainv2_step (I : Instance) (s : AState) (hinv : AInv I s) (h2 : AInv2 I s) (j p m : Nat) (op : Op)
    (hr : Ready I s j p) (hop : getOp I j p = some op) (hd : 0 ≤ op.dur) (hm : m ∈ op.machines) :
    AInv2 I (dispA s j p m op) := by
  have hidx : s.idx j = p := hr.1
  have hlt : ∀ x ∈ s.sched, x.job = j → x.pos < p := fun x hx e => hidx ▸ e ▸ hinv.sched_lt x hx
  -- the job's scheduled operations end before the new one starts
  have hbefore : ∀ x ∈ s.sched, x.job = j → x.end_ ≤ startA s j m := fun x hx e =>
    Int.le_trans (e ▸ h2.jN_ge x hx) (startA_ge_jN s j m)
  exact {
    elig := forall_mem_dispA.2 ⟨h2.elig, fun op' hop' => Option.some.inj (hop.symm.trans hop') ▸ hm⟩
    start_nonneg := forall_mem_dispA.2
      ⟨h2.start_nonneg, Int.le_trans (hinv.jN_nonneg j) (startA_ge_jN s j m)⟩
    dur_nonneg := forall_mem_dispA.2 ⟨h2.dur_nonneg, hd⟩
    jN_ge := forall_mem_dispA.2
      ⟨fun x hx => Int.le_trans (h2.jN_ge x hx) (le_dispA_jN hd _), Int.le_of_eq (upd_same _ _ _).symm⟩
    keys_nodup := by
      refine (List.map_append ▸ List.nodup_append).2 ⟨h2.keys_nodup, List.pairwise_singleton _ _, ?_⟩
      intro a ha b hb hab
      obtain ⟨x, hx, rfl⟩ := List.mem_map.1 ha
      cases hab.trans (List.mem_singleton.1 hb)
      exact Nat.lt_irrefl _ (hlt x hx rfl)
    idx_count := fun j' => by
      rw [dispA_idx]
      simp only [dispA, List.filter_append, List.length_append, h2.idx_count]
      by_cases e : j' = j
      · simp [e, hidx]
      · simp [e, Ne.symm e]
    jobOrder := forall_mem_dispA.2
      ⟨fun x hx => forall_mem_dispA.2 ⟨h2.jobOrder x hx, fun e _ => hbefore x hx e⟩,
       forall_mem_dispA.2
        ⟨fun y hy e h => absurd (hlt y hy e.symm) (Nat.lt_asymm h), fun _ h => absurd h (Nat.lt_irrefl _)⟩⟩ }

structure CInv (I : Instance) (s : State) : Prop where
  wf : WF I s
  abs : ∃ a, Rel s a ∧ AInv I a ∧ AInv2 I a
  inList : ∀ m, ∀ x ∈ s.sched.getD m [], x.machine = m
  ordered : ∀ m, (s.sched.getD m []).Pairwise (fun a b => a.end_ ≤ b.start)
  lastEnd : ∀ m, s.machNext.getD m 0 = ((s.sched.getD m []).getLast?.map SOp.end_).getD 0

theorem getD_replicate_nil {α} (n k : Nat) : (List.replicate n ([] : List α)).getD k [] = [] := by
  simp only [List.getD_eq_getElem?_getD, List.getElem?_replicate]
  split <;> rfl

theorem cinv_init (I : Instance) : CInv I (init I) := by
  refine ⟨wf_init I, ⟨ainit, rel_init I, ainv_init I, ainv2_init I⟩, ?_, ?_, ?_⟩
  · intro m x hx; simp only [init, getD_replicate_nil] at hx; cases hx
  · intro m; simp only [init, getD_replicate_nil]; exact List.Pairwise.nil
  · intro m
    simp only [init, getD_replicate_nil]
    simp only [List.getD_eq_getElem?_getD, List.getElem?_replicate]
    split <;> rfl

theorem mem_getD_flatten {α} (l : List (List α)) (m : Nat) (x : α) (h : x ∈ l.getD m []) : x ∈ l.flatten := by
  simp only [List.getD_eq_getElem?_getD] at h
  cases hm : l[m]? with
  | none => simp [hm] at h
  | some ms =>
    simp [hm] at h
    exact List.mem_flatten.2 ⟨ms, List.mem_of_getElem? hm, h⟩

theorem mem_flatten_getD {α} (l : List (List α)) (x : α) (h : x ∈ l.flatten) : ∃ m, x ∈ l.getD m [] := by
  obtain ⟨ms, hms, hx⟩ := List.mem_flatten.1 h
  obtain ⟨i, hi, rfl⟩ := List.mem_iff_getElem.1 hms
  exact ⟨i, by simp [List.getD_eq_getElem?_getD, List.getElem?_eq_getElem hi, hx]⟩

theorem Rel.mem_of_getD {s : State} {a : AState} (hr : Rel s a) {x : SOp} (m : Nat)
    (hx : x ∈ s.sched.getD m []) : x ∈ a.sched := hr.sched.mem_iff.2 (mem_getD_flatten _ _ _ hx)

theorem cinv_dispatch {I : Instance} {s s' : State} {j p m : Nat} {op : Op} (hv : 0 ≤ op.dur)
    (hc : CInv I s) (hd : DispSpec I s s' j p m op) : CInv I s' := by
  obtain ⟨a, hr, ha, ha2⟩ := hc.abs
  have hready : Ready I a j p := ⟨by rw [hr.idx]; exact hd.hidx, by simp [hd.hop]⟩
  obtain ⟨hwf', hr'⟩ := rel_dispatch hc.wf hr hd
  have hsched := hd.sched_getD hc.wf
  refine ⟨hwf', ⟨_, hr', ainv_step I a ha j p m op hready.1 hd.hop hv,
    ainv2_step I a ha ha2 j p m op hready hd.hop hv hd.hm⟩, fun k => ?_, fun k => ?_, fun k => ?_⟩ <;>
    rw [hsched]
  · by_cases hk : k = m
    · subst hk
      intro x hx
      rw [if_pos rfl] at hx
      rcases List.mem_append.1 hx with hx | hx
      · exact hc.inList k x hx
      · rw [List.mem_singleton.1 hx]
    · rw [if_neg hk]; exact hc.inList k
  · by_cases hk : k = m
    · subst hk
      rw [if_pos rfl, List.pairwise_append]
      refine ⟨hc.ordered k, List.pairwise_singleton _ _, fun x hx y hy => ?_⟩
      -- an operation already on the machine ends before the machine is next available
      have h1 := ha.mN_ge x (hr.mem_of_getD k hx)
      rw [hc.inList k x hx, hr.mN] at h1
      rw [List.mem_singleton.1 hy]
      simp only [startTime]; omega
    · rw [if_neg hk]; exact hc.ordered k
  · rw [(dispSpec_vectors hc.wf hd).1]
    by_cases hk : k = m
    · simp [hk, SOp.end_]
    · simp only [hk, ↓reduceIte]; exact hc.lastEnd k

theorem cinv_uniq {I : Instance} {s : State} (h : CInv I s) {x y : SOp} (hx : x ∈ s.sched.flatten)
    (hy : y ∈ s.sched.flatten) (hj : x.job = y.job) (hp : x.pos = y.pos) : x = y :=
  let ⟨_, hr, ha, _⟩ := h.abs
  ha.uniq x (hr.sched.mem_iff.2 hx) y (hr.sched.mem_iff.2 hy) hj hp

theorem cinv_dur_nonneg {I : Instance} {s : State} (h : CInv I s) : ∀ x ∈ s.sched.flatten, 0 ≤ x.dur := by
  obtain ⟨a, hr, _, ha2⟩ := h.abs
  intro x hx; exact ha2.dur_nonneg x (hr.sched.mem_iff.2 hx)

theorem cinv_find? {I : Instance} {s : State} (h : CInv I s) {x : SOp} (hx : x ∈ s.sched.flatten) :
    s.sched.flatten.find? (fun y => y.job == x.job && y.pos == x.pos) = some x := by
  cases hf : s.sched.flatten.find? (fun y => y.job == x.job && y.pos == x.pos) with
  | none => exact absurd (by simp) (List.find?_eq_none.1 hf x hx)
  | some y =>
    have hy := List.find?_some hf
    simp only [Bool.and_eq_true, beq_iff_eq] at hy
    rw [cinv_uniq h (List.mem_of_find?_eq_some hf) hx hy.1 hy.2]

/-- the entry `World.dispatch` looks up after an accepted dispatch is the one just appended -/
theorem find_new_entry {I : Instance} {s s' : State} {j p mm : Nat} {op : Op} (hc : CInv I s) (hv : 0 ≤ op.dur)
    (hd : DispSpec I s s' j p mm op) :
    s'.sched.flatten.find? (fun x => x.job == j && x.pos == p) = some ⟨j, p, mm, startTime s j mm, op.dur⟩ :=
  cinv_find? (cinv_dispatch hv hc hd) ((hd.mem_flatten hc.wf _).2 (.inr rfl))

/-- A ready operation on an eligible machine is always accepted: the `Schedule.add` check cannot fire. -/
theorem dispatch_accepts {I : Instance} {s : State} {j p m : Nat} {op : Op} (hc : CInv I s)
    (hop : getOp I j p = some op) (hidx : s.jobIdx.getD j 0 = p) (hm : m ∈ op.machines) :
    ∃ s', dispatch I s j p m = .ok s' := by
  have hadd : addOk (s.sched.getD m []) ⟨j, p, m, startTime s j m, op.dur⟩ = true := by
    unfold addOk
    have hl := hc.lastEnd m
    cases hlast : (s.sched.getD m []).getLast? with
    | none => rfl
    | some last =>
      simp only [hlast, Option.map_some, Option.getD_some] at hl
      have : last.end_ ≤ startTime s j m := by simp only [startTime]; omega
      simpa using this
  unfold dispatch
  simp only [hop, hidx, ne_eq, not_true_eq_false, ↓reduceIte, hm, hadd, Bool.not_true, Bool.false_eq_true]
  exact ⟨_, rfl⟩

end JS
