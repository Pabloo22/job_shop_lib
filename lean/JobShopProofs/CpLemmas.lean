import JobShopModel.CpSat
import JobShopProofs.Properties.C14
import JobShopProofs.Properties.C08
/-!
# Lemmas about the CP model: sorting, chains, operation ids, membership of the generated constraints
-/
namespace JS

theorem consec_pairwise {α} (st en : α → Int) (l : List α) (hse : ∀ a ∈ l, st a ≤ en a)
    (hc : Consec (fun a b => en a ≤ st b) l) : l.Pairwise (fun a b => en a ≤ st b) := by
  induction l with
  | nil => exact List.Pairwise.nil
  | cons a t ih =>
    cases t with
    | nil => exact List.pairwise_singleton _ _
    | cons b t =>
      obtain ⟨hab, hrest⟩ := hc
      have ih := ih (fun x hx => hse x (List.mem_cons_of_mem _ hx)) hrest
      refine List.pairwise_cons.2 ⟨fun c hc => ?_, ih⟩
      rcases List.mem_cons.1 hc with rfl | hct
      · exact hab
      · exact Int.le_trans hab (Int.le_trans (hse b (List.mem_cons_of_mem _ List.mem_cons_self))
          ((List.pairwise_cons.1 ih).1 c hct))

theorem pairwise_consec {α} (R : α → α → Prop) (l : List α) (h : l.Pairwise R) : Consec R l := by
  induction h with
  | nil => trivial
  | @cons a t hx _ ih =>
    cases t with
    | nil => trivial
    | cons b t => exact ⟨hx b List.mem_cons_self, ih⟩

theorem keyLe_iff {a b : SOp} : keyLe a b = true ↔ a.start < b.start ∨ (a.start = b.start ∧ a.end_ ≤ b.end_) := by
  simp only [keyLe, Bool.or_eq_true, decide_eq_true_eq, Bool.and_eq_true, beq_iff_eq]

theorem keyLe_total (a b : SOp) : keyLe a b = true ∨ keyLe b a = true := by
  rw [keyLe_iff, keyLe_iff]
  omega

theorem keyLe_trans {a b c : SOp} (h1 : keyLe a b = true) (h2 : keyLe b c = true) : keyLe a c = true := by
  rw [keyLe_iff] at *
  omega

theorem insertSOp_perm (x : SOp) (l : List SOp) : (insertSOp x l).Perm (x :: l) := by
  induction l with
  | nil => exact List.Perm.refl _
  | cons y ys ih =>
    rw [insertSOp]
    split
    · exact (ih.cons y).trans (List.Perm.swap x y ys)
    · exact List.Perm.refl _

theorem insertSOp_sorted (x : SOp) (l : List SOp) (h : l.Pairwise (fun a b => keyLe a b = true)) :
    (insertSOp x l).Pairwise (fun a b => keyLe a b = true) := by
  induction h with
  | nil => exact List.pairwise_singleton _ _
  | @cons y ys hy hys ih =>
    rw [insertSOp]
    by_cases hyx : keyLe y x = true
    · rw [if_pos hyx, List.pairwise_cons]
      refine ⟨fun b hb => ?_, ih⟩
      rcases List.mem_cons.1 ((insertSOp_perm x ys).mem_iff.1 hb) with rfl | hb
      · exact hyx
      · exact hy b hb
    · rw [if_neg hyx, List.pairwise_cons]
      have hxy : keyLe x y = true := (keyLe_total x y).resolve_right hyx
      refine ⟨fun b hb => ?_, List.pairwise_cons.2 ⟨hy, hys⟩⟩
      rcases List.mem_cons.1 hb with rfl | hb
      · exact hxy
      · exact keyLe_trans hxy (hy b hb)

theorem sortSOps_spec (l : List SOp) : (sortSOps l).Perm l ∧ (sortSOps l).Pairwise (fun a b => keyLe a b = true) := by
  unfold sortSOps
  have : ∀ (l acc : List SOp), acc.Pairwise (fun a b => keyLe a b = true) →
      (l.foldl (fun acc x => insertSOp x acc) acc).Perm (acc ++ l) ∧
      (l.foldl (fun acc x => insertSOp x acc) acc).Pairwise (fun a b => keyLe a b = true) := by
    intro l
    induction l with
    | nil => intro acc h; simp [h]
    | cons a t ih =>
      intro acc h
      simp only [List.foldl_cons]
      obtain ⟨p, s⟩ := ih (insertSOp a acc) (insertSOp_sorted a acc h)
      refine ⟨p.trans ?_, s⟩
      have h1 : (insertSOp a acc ++ t).Perm ((a :: acc) ++ t) := (insertSOp_perm a acc).append_right t
      have h2 : ((a :: acc) ++ t).Perm (acc ++ a :: t) := by
        simp only [List.cons_append]
        exact (List.perm_middle (l₁ := acc) (l₂ := t) (a := a)).symm
      exact h1.trans h2
  have h := this l [] List.Pairwise.nil
  simpa using h

def Disj (a b : SOp) : Prop := a.end_ ≤ b.start ∨ b.end_ ≤ a.start

theorem sorted_disjoint_ordered (l : List SOp) (hd : ∀ a ∈ l, 0 ≤ a.dur) (hs : l.Pairwise (fun a b => keyLe a b = true))
    (hj : l.Pairwise Disj) : l.Pairwise (fun a b => a.end_ ≤ b.start) := by
  induction hs with
  | nil => exact List.Pairwise.nil
  | @cons a t hk _ ih =>
    rw [List.pairwise_cons] at hj ⊢
    refine ⟨fun b hb => ?_, ih (fun x hx => hd x (List.mem_cons_of_mem _ hx)) hj.2⟩
    have hda := hd a List.mem_cons_self
    have hdb := hd b (List.mem_cons_of_mem _ hb)
    have hk' := keyLe_iff.1 (hk b hb)
    rcases hj.1 b hb with h | h
    · exact h
    · simp only [SOp.end_] at h hk' ⊢
      rcases hk' with h1 | ⟨h1, h2⟩ <;> omega

theorem disj_symm {a b : SOp} (h : Disj a b) : Disj b a := h.symm

theorem sortSOps_ordered {l : List SOp} (hd : ∀ a ∈ l, 0 ≤ a.dur) (hj : l.Pairwise Disj) :
    (sortSOps l).Pairwise (fun a b => a.end_ ≤ b.start) := by
  obtain ⟨hperm, hsorted⟩ := sortSOps_spec l
  exact sorted_disjoint_ordered _ (fun a ha => hd a (hperm.mem_iff.1 ha)) hsorted
    ((hperm.pairwise_iff (fun {a b} h => disj_symm h)).2 hj)

theorem opId_lt {I : Instance} {r : OpRef} (h : r ∈ allOps I) : opId I r < numOps I := by
  have : opId I r ∈ (allOps I).map (opId I) := List.mem_map_of_mem h
  rw [C14_ids] at this
  exact List.mem_range.1 this

theorem allOps_getElem_opId {I : Instance} {r : OpRef} (h : r ∈ allOps I) : (allOps I)[opId I r]? = some r := by
  obtain ⟨k, hk⟩ := List.getElem?_of_mem h
  have hlt : k < (allOps I).length := (List.getElem?_eq_some_iff.1 hk).1
  have : ((allOps I).map (opId I))[k]? = some (opId I r) := by simp [hk]
  rw [C14_ids] at this
  have hkk : k = opId I r := by
    rw [List.getElem?_range (by rwa [length_allOps] at hlt)] at this
    exact Option.some.inj this
  rw [← hkk]; exact hk

theorem opId_getElem_allOps {I : Instance} {k : Nat} (h : k < (allOps I).length) : opId I ((allOps I)[k]) = k := by
  have h2 : ((allOps I).map (opId I))[k]? = some (opId I ((allOps I)[k])) := by
    simp [List.getElem?_eq_getElem h]
  rw [C14_ids, List.getElem?_range (by rwa [length_allOps] at h)] at h2
  exact (Option.some.inj h2).symm

theorem opId_inj {I : Instance} {r r' : OpRef} (h : r ∈ allOps I) (h' : r' ∈ allOps I) (he : opId I r = opId I r') :
    r = r' := by
  have a := allOps_getElem_opId h
  have b := allOps_getElem_opId h'
  rw [he, b] at a
  exact (Option.some.inj a).symm

theorem mem_allOps_of_getOp {I : Instance} {j p : Nat} {op : Op} (h : getOp I j p = some op) : (j, p) ∈ allOps I := by
  rw [mem_allOps']; simp [h]

theorem getOp_of_mem_allOps {I : Instance} {r : OpRef} (h : r ∈ allOps I) : ∃ op, getOp I r.1 r.2 = some op :=
  Option.isSome_iff_exists.1 ((mem_allOps' I r).1 h)

theorem startVar_lt {I : Instance} {r : OpRef} (h : r ∈ allOps I) : startVar I r < 2 * numOps I := by
  have := opId_lt h
  unfold startVar
  omega

theorem endVar_lt {I : Instance} {r : OpRef} (h : r ∈ allOps I) : endVar I r < 2 * numOps I := by
  have := opId_lt h
  unfold endVar
  omega

theorem holds_endEq {v : Nat → Int} {s e : Nat} {d : Int} :
    (CpCon.lin [(-1, s), (1, e)] (some d) d).holds v ↔ v e = v s + d := by
  simp only [CpCon.holds, linSum, List.map_cons, List.map_nil, List.sum_cons, List.sum_nil]
  omega

theorem holds_prec {v : Nat → Int} {s e : Nat} : (CpCon.lin [(1, e), (-1, s)] none 0).holds v ↔ v e ≤ v s := by
  simp only [CpCon.holds, linSum, List.map_cons, List.map_nil, List.sum_cons, List.sum_nil, true_and]
  omega

theorem cp_mem_endEq {I : Instance} {r : OpRef} (h : r ∈ allOps I) :
    CpCon.lin [(-1, startVar I r), (1, endVar I r)] (some (durOf I r)) (durOf I r) ∈ (cpModel I).cons := by
  simp only [cpModel, List.mem_append, List.mem_map]
  exact Or.inl (Or.inl (Or.inl ⟨r, h, rfl⟩))

theorem cp_mem_prec {I : Instance} {j p : Nat} (h : (j, p + 1) ∈ allOps I) :
    CpCon.lin [(1, endVar I (j, p)), (-1, startVar I (j, p + 1))] none 0 ∈ (cpModel I).cons := by
  simp only [cpModel, List.mem_append, List.mem_filterMap]
  exact Or.inl (Or.inl (Or.inr ⟨(j, p + 1), h, if_neg (Nat.succ_ne_zero p)⟩))

theorem cp_mem_noOverlap {I : Instance} {m : Nat} (h : m < numMachines I) :
    CpCon.noOverlap ((opsOn I m).map (itvOf I)) ∈ (cpModel I).cons := by
  simp only [cpModel, List.mem_append, List.mem_flatMap, List.mem_range]
  exact Or.inl (Or.inr ⟨m, h, Or.inr (by simp)⟩)

theorem cp_mem_linMax (I : Instance) :
    CpCon.linMax (makespanVar I) ((allOps I).map (endVar I)) ∈ (cpModel I).cons := by
  simp [cpModel]

theorem cp_cons_cases {I : Instance} {c : CpCon} (h : c ∈ (cpModel I).cons) :
    (∃ r ∈ allOps I, c = .lin [(-1, startVar I r), (1, endVar I r)] (some (durOf I r)) (durOf I r)) ∨
    (∃ r ∈ allOps I, r.2 ≠ 0 ∧ c = .lin [(1, endVar I (r.1, r.2 - 1)), (-1, startVar I r)] none 0) ∨
    (∃ m < numMachines I, ∃ r ∈ opsOn I m, c = .interval (itvOf I r)) ∨
    (∃ m < numMachines I, c = .noOverlap ((opsOn I m).map (itvOf I))) ∨
    c = .linMax (makespanVar I) ((allOps I).map (endVar I)) := by
  simp only [cpModel, List.mem_append, List.mem_map, List.mem_filterMap, List.mem_flatMap, List.mem_range,
    List.mem_singleton] at h
  rcases h with ((⟨r, hr, rfl⟩ | ⟨r, hr, hc⟩) | ⟨m, hm, hc⟩) | rfl
  · exact Or.inl ⟨r, hr, rfl⟩
  · by_cases hp : r.2 = 0
    · simp [hp] at hc
    · simp only [hp, ↓reduceIte, Option.some.injEq] at hc
      exact Or.inr (Or.inl ⟨r, hr, hp, hc.symm⟩)
  · rcases hc with ⟨r, hr, rfl⟩ | rfl
    · exact Or.inr (Or.inr (Or.inl ⟨m, hm, r, hr, rfl⟩))
    · exact Or.inr (Or.inr (Or.inr (Or.inl ⟨m, hm, rfl⟩)))
  · exact Or.inr (Or.inr (Or.inr (Or.inr rfl)))

theorem cp_dom (I : Instance) (i : Nat) (h : i < 2 * numOps I + 1) :
    (cpModel I).doms[i]? = some (0, totalDuration I) := by
  simp [cpModel, List.getElem?_replicate, h]

theorem cp_dom_some {I : Instance} {i : Nat} {lh : Int × Int} (h : (cpModel I).doms[i]? = some lh) :
    i < 2 * numOps I + 1 ∧ lh = (0, totalDuration I) := by
  simp only [cpModel, List.getElem?_replicate] at h
  split at h
  · rename_i hlt; exact ⟨hlt, (Option.some.inj h).symm⟩
  · cases h

theorem mem_opsOn {I : Instance} {m : Nat} {r : OpRef} : r ∈ opsOn I m ↔ r ∈ allOps I ∧ machOf I r = m := by
  simp [opsOn]

end JS
