import JobShopProofs.Properties.C11World
import JobShopProofs.Properties.C04
/-!
# C04: the observer-based most-work-remaining score, read off the observers' actual arrays

`most_work_remaining_score` reads `DurationObserver.features[JOBS]` and `IsReadyObserver.features[JOBS]` and zeroes
the work of the jobs that are not ready.  The model of the rule (`score c s .mwkr`) is written with the
specifications of the two observers; here the two are connected through the feature-world theorems (`C11_world_*`):
in every reachable feature world — and for observers constructed late, in any dispatcher state — the list computed
from the arrays is the model's score list.
-/
namespace JS

/-- the score list `most_work_remaining_score` computes from the two observers' job columns -/
def observerMwkrScores (dur ready : FObs) : List Int :=
  List.zipWith (fun w r => if r == 0 then 0 else w) (dur.col .jobs) (ready.col .jobs)

theorem opDur_eq_opDurF : opDur = opDurF := rfl

theorem durJobsSpec_eq_remainingWork (I : Instance) (s : State) :
    durJobsSpec I s = (List.range I.length).map fun j => remainingWork I s j := rfl

theorem specScores_eq (c : Cfg) (s : State) :
    List.zipWith (fun (w r : Int) => if r == 0 then 0 else w) (durJobsSpec c.I s)
        (indicator (numEntities c.I .jobs) (readyIds c s .jobs)) =
      (List.range c.I.length).map fun j => score c s .mwkr j := by
  simp only [durJobsSpec_eq_remainingWork, indicator, numEntities, readyIds, List.zipWith_map, List.zipWith_self, score]
  apply List.map_congr_left
  intro j _
  by_cases h : (availableJobsPure c s).contains j = true <;> simp

theorem observerMwkrScores_of_spec (c : Cfg) (s : State) (od or_ : FObs)
    (hD : od.col .jobs = durJobsSpec c.I s)
    (hR : or_.col .jobs = indicator (numEntities c.I .jobs) (readyIds c s .jobs)) :
    observerMwkrScores od or_ = (List.range c.I.length).map fun j => score c s .mwkr j := by
  unfold observerMwkrScores
  rw [hD, hR]
  exact specScores_eq c s

/-- in every reachable feature world that contains the two observers (subscribed, with job features), the scores read
off the arrays are the model's scores -/
theorem C04_observer_scores_world (c : Cfg) (hv : Valid c.I) (hF : c.F = none ∨ PosDurI c.I) (w : FWorld) (hw : Reached c w)
    (idD idR : Nat) (hD : idD ∈ w.subs) (hR : idR ∈ w.subs) (od or_ : FObs)
    (hod : w.heap[idD]? = some od) (hor : w.heap[idR]? = some or_)
    (hkD : od.kind = .duration) (hkR : or_.kind = .isReady) (hfD : FT.jobs ∈ od.fts) (hfR : FT.jobs ∈ or_.fts) :
    observerMwkrScores od or_ = (List.range c.I.length).map fun j => score c w.s .mwkr j :=
  observerMwkrScores_of_spec c w.s od or_
    (C11_world_duration_jobs c hv hF w hw idD hD od hod hkD hfD)
    (C11_world_isReady c hv hF w hw idR hR or_ hor hkR .jobs hfR)

/-- the base object of a feature-observer constructor with the job feature only -/
def jobsBase (I : Instance) (kind : FKind) : FObs :=
  ({ kind := kind, fts := [.jobs], est := if kind == .earliestStart then estInitial I else [] } : FObs).zeroed I

theorem jobsBase_wf (I : Instance) (kind : FKind) : (jobsBase I kind).WF :=
  zeroed_wf I _ (by simp)

theorem construct_duration_jobs (w : FWorld) :
    w.construct .duration (some [.jobs]) =
      ((w.push (jobsBase w.cfg.I .duration)).1.setObs w.heap.length (durationInit w.cfg w.s (jobsBase w.cfg.I .duration)),
        some w.heap.length) := rfl

theorem construct_isReady_jobs (w : FWorld) :
    w.construct .isReady (some [.jobs]) =
      ((w.push (jobsBase w.cfg.I .isReady)).1.setObs w.heap.length (isReadyFeatures w.cfg w.s (jobsBase w.cfg.I .isReady)),
        some w.heap.length) := rfl

/-- the observers may also be created late (the scorer creates them lazily at whatever state it is first called in): a
`DurationObserver` and an `IsReadyObserver` constructed in ANY dispatcher state hold the specification of that state.
(No hypothesis on the world is needed: the constructors of the feature observers have no singleton guard.) -/
theorem C04_late_observers' (w : FWorld) :
    let r1 := w.construct .duration (some [.jobs])
    let r2 := r1.1.construct .isReady (some [.jobs])
    ∃ idD idR od or_, r1.2 = some idD ∧ r2.2 = some idR ∧ r2.1.heap[idD]? = some od ∧ r2.1.heap[idR]? = some or_ ∧
      od.kind = .duration ∧ or_.kind = .isReady ∧ idD ∈ r2.1.subs ∧ idR ∈ r2.1.subs ∧ r2.1.s = w.s ∧ r2.1.cfg = w.cfg ∧
      observerMwkrScores od or_ = (List.range w.cfg.I.length).map fun j => score w.cfg w.s .mwkr j := by
  intro r1 r2
  have hr1 : r1 = _ := construct_duration_jobs w
  have hr2 : r2 = _ := construct_isReady_jobs r1.1
  refine ⟨w.heap.length, w.heap.length + 1, durationInit w.cfg w.s (jobsBase w.cfg.I .duration),
    isReadyFeatures w.cfg w.s (jobsBase w.cfg.I .isReady), ?_, ?_, ?_, ?_, ?_, ?_, ?_, ?_, ?_, ?_, ?_⟩
  · rw [hr1]
  · rw [hr2, hr1]; simp [FWorld.push, FWorld.setObs]
  · rw [hr2, hr1]; simp [FWorld.push, FWorld.setObs]
  · rw [hr2, hr1]; simp [FWorld.push, FWorld.setObs]
  · rfl
  · rfl
  · rw [hr2, hr1]; simp [FWorld.push, FWorld.setObs]
  · rw [hr2, hr1]; simp [FWorld.push, FWorld.setObs]
  · rw [hr2, hr1]; rfl
  · rw [hr2, hr1]; rfl
  · apply observerMwkrScores_of_spec
    · exact (durationInit_jobs w.cfg w.s _ (jobsBase_wf _ _) (by simp [jobsBase, FObs.zeroed])).1
    · exact C11_isReady w.cfg w.s _ (by simp [jobsBase, FObs.zeroed]) .jobs (by simp [jobsBase, FObs.zeroed])

set_option linter.unusedVariables false in
/-- `hs` is not used: see `C04_late_observers'` -/
theorem C04_late_observers (w : FWorld) (hs : SubsOK w) :
    let r1 := w.construct .duration (some [.jobs])
    let r2 := r1.1.construct .isReady (some [.jobs])
    ∃ idD idR od or_, r1.2 = some idD ∧ r2.2 = some idR ∧ r2.1.heap[idD]? = some od ∧ r2.1.heap[idR]? = some or_ ∧
      observerMwkrScores od or_ = (List.range w.cfg.I.length).map fun j => score w.cfg w.s .mwkr j := by
  intro r1 r2
  obtain ⟨idD, idR, od, or_, h1, h2, h3, h4, _, _, _, _, _, _, h5⟩ := C04_late_observers' w
  exact ⟨idD, idR, od, or_, h1, h2, h3, h4, h5⟩

/-! ## late observers stay synchronised

`C04_late_observers` speaks about the state in which the scorer is first called.  The scorer is then called again
after every later dispatch; the two observers are subscribers from their construction on, so they are updated by
every dispatch.  The following statements show that the scores read off their arrays remain the model's scores after
any later sequence of dispatch requests and resets: late construction preserves the value invariant `FInv` of the
feature world (and the heap invariant `HeapOK`), so `run_events` applies to the extended world. -/

theorem obsVal_duration_jobs (c : Cfg) (s : State) (o : FObs) (hk : o.kind = .duration) (hf : o.fts = [.jobs])
    (hc : o.col .jobs = durJobsSpec c.I s) : ObsVal c s o :=
  obsVal_of_kind hk ⟨fun h => by rw [hf] at h; simp at h, fun _ => hc, fun _ h => by rw [hf] at h; simp at h⟩

theorem finv_push_set {w : FWorld} (h : FInv w) (b o : FObs) (hsh : o.kind.single = true → o.Shaped w.cfg.I)
    (hval : ObsVal w.cfg w.s o) : FInv ((w.push b).1.setObs w.heap.length o) := by
  refine ⟨fun k o' hk hs => ?_, subsOK_setObs (subsOK_push h.subs b) _ _, h.reach, fun id hid o' hk => ?_⟩
  · rcases setObs_heap_cases hk with ⟨_, rfl⟩ | ⟨hne, h1⟩
    · exact hsh hs
    · rcases push_heap_cases h1 with h2 | ⟨h2, _⟩
      · exact h.shape k o' h2 hs
      · exact absurd h2 hne
  · rcases setObs_heap_cases hk with ⟨_, rfl⟩ | ⟨hne, h1⟩
    · exact hval
    · rcases push_heap_cases h1 with h2 | ⟨h2, _⟩
      · rcases List.mem_append.1 hid with h3 | h3
        · exact h.val id h3 o' h2
        · exact absurd (List.mem_singleton.1 h3) hne
      · exact absurd h2 hne

theorem late_world (w : FWorld) (hI : FInv w) :
    let w2 := ((w.construct .duration (some [.jobs])).1.construct .isReady (some [.jobs])).1
    FInv w2 ∧ w2.cfg = w.cfg ∧ w2.s = w.s ∧ w.heap.length ∈ w2.subs ∧ w.heap.length + 1 ∈ w2.subs ∧
      (∃ od, w2.heap[w.heap.length]? = some od ∧ od.kind = .duration ∧ od.fts = [.jobs]) ∧
      (∃ or_, w2.heap[w.heap.length + 1]? = some or_ ∧ or_.kind = .isReady ∧ or_.fts = [.jobs]) := by
  intro w2
  have hw2 : w2 = ((w.construct .duration (some [.jobs])).1.construct .isReady (some [.jobs])).1 := rfl
  clear_value w2
  obtain ⟨idD, idR, od, or_, h1, h2, h3, h4, k1, k2, s1, s2, e1, e2, _⟩ := C04_late_observers' w
  have hid : idD = w.heap.length := by
    have := construct_duration_jobs w
    rw [this] at h1; exact (Option.some.inj h1).symm
  have hw1 : (w.construct .duration (some [.jobs])).1.heap.length = w.heap.length + 1 := by
    rw [construct_duration_jobs]; simp [FWorld.push, FWorld.setObs]
  have hir : idR = w.heap.length + 1 := by
    have := construct_isReady_jobs (w.construct .duration (some [.jobs])).1
    rw [this] at h2; rw [← hw1]; exact (Option.some.inj h2).symm
  subst hid hir
  have hI1 : FInv (w.construct .duration (some [.jobs])).1 := by
    rw [construct_duration_jobs]
    apply finv_push_set hI
    · intro _; exact (keeps_durationInit w.cfg w.s (zeroed_shaped _ _ (by simp))).shaped
    · exact obsVal_duration_jobs _ _ _ rfl rfl
        (durationInit_jobs w.cfg w.s _ (jobsBase_wf _ _) (by simp [jobsBase, FObs.zeroed])).1
  generalize hw1' : (w.construct .duration (some [.jobs])).1 = w1 at *
  have hI2 : FInv (w1.construct .isReady (some [.jobs])).1 := by
    rw [construct_isReady_jobs]
    apply finv_push_set hI1
    · intro _; exact (keeps_isReadyFeatures w1.cfg w1.s (zeroed_shaped _ _ (by simp))).shaped
    · exact obsVal_of_kind (k := .isReady) rfl
        (fun ft hft => C11_isReady w1.cfg w1.s _ (by simp [jobsBase, FObs.zeroed]) ft hft)
  have hod : od.fts = [.jobs] := by
    have : (w1.construct .isReady (some [.jobs])).1.heap[w.heap.length]? =
        some (durationInit w.cfg w.s (jobsBase w.cfg.I .duration)) := by
      rw [← hw1', construct_isReady_jobs, construct_duration_jobs]; simp [FWorld.push, FWorld.setObs]
    rw [this] at h3; cases h3; rfl
  have hor : or_.fts = [.jobs] := by
    have : (w1.construct .isReady (some [.jobs])).1.heap[w.heap.length + 1]? =
        some (isReadyFeatures w1.cfg w1.s (jobsBase w1.cfg.I .isReady)) := by
      rw [construct_isReady_jobs, ← hw1]; simp [FWorld.push, FWorld.setObs]
    rw [this] at h4; cases h4; rfl
  subst hw2
  exact ⟨hI2, e2, e1, s1, s2, ⟨od, h3, k1, hod⟩, ⟨or_, h4, k2, hor⟩⟩

/-- `w'` still has, at every place where `w` has a `DurationObserver` or an `IsReadyObserver`, an observer of the same
class with the same feature types -/
def KeepDR (w w' : FWorld) : Prop :=
  ∀ (k : Nat) (o : FObs), w.heap[k]? = some o → (o.kind = .duration ∨ o.kind = .isReady) →
    ∃ o' : FObs, w'.heap[k]? = some o' ∧ o'.kind = o.kind ∧ o'.fts = o.fts

theorem KeepDR.refl (w : FWorld) : KeepDR w w := fun _ o h _ => ⟨o, h, rfl, rfl⟩

theorem KeepDR.trans {a b c : FWorld} (h1 : KeepDR a b) (h2 : KeepDR b c) : KeepDR a c := by
  intro k o ho hk
  obtain ⟨o1, g1, k1, f1⟩ := h1 k o ho hk
  obtain ⟨o2, g2, k2, f2⟩ := h2 k o1 g1 (by rw [k1]; exact hk)
  exact ⟨o2, g2, k2.trans k1, f2.trans f1⟩

theorem updObs_keepDR (c : Cfg) (s : State) (x : SOp) (hp : List FObs) (o : FObs)
    (hk : o.kind = .duration ∨ o.kind = .isReady) :
    (updObs c s x hp o).kind = o.kind ∧ (updObs c s x hp o).fts = o.fts := by
  refine ⟨updObs_kind c s x hp o, ?_⟩
  rcases hk with hk | hk <;> simp only [updObs, hk] <;> exact assignCols_fts _ _

theorem dispatch_keepDR (w : FWorld) (hs : SubsOK w) (j p : Nat) (m : Option Int) : KeepDR w (w.dispatch j p m).1 := by
  unfold FWorld.dispatch
  cases dispatchReq w.cfg.I w.s j p m with
  | error e => exact KeepDR.refl w
  | ok s' =>
    simp only
    cases (s'.sched.flatten.find? fun x => x.job == j && x.pos == p) with
    | none => exact fun _ o h _ => ⟨o, h, rfl, rfl⟩
    | some x =>
      simp only
      obtain ⟨_, _, _, _, f5, f6⟩ := fold_callUpdate_at x w.subs { w with s := s' } hs.nodup
      intro k o ho hk
      by_cases hmem : k ∈ w.subs
      · obtain ⟨hp, hhp⟩ := f6 k hmem o ho
        obtain ⟨a, b⟩ := updObs_keepDR w.cfg s' x hp o hk
        exact ⟨_, hhp, a, b⟩
      · exact ⟨o, by rw [f5 k hmem]; exact ho, rfl, rfl⟩

open FWReset in
theorem reset_keepDR (w : FWorld) (h : FInv w) : KeepDR w w.reset := by
  obtain ⟨m, _⟩ := fold_callReset w.subs { w with s := JS.init w.cfg.I } (J.of_finv h) (fun _ hid => hid)
  intro k o ho hk
  obtain ⟨o', g, k1, f1⟩ := m.keep k o ho
  exact ⟨o', g, k1, f1 (by rcases hk with hk | hk <;> rw [hk] <;> rfl)⟩

/-- **C04 (lazily created observers, every later state).** Construct the two observers in any world that satisfies
the invariant of the feature world, then run any dispatch requests and resets: the scores read off the two observers'
arrays are the model's scores in the state reached. -/
theorem C04_late_observers_stay (w : FWorld) (hv : Valid w.cfg.I) (hF : w.cfg.F = none ∨ PosDurI w.cfg.I)
    (hI : FInv w) (evs : List FEv) (hev : ∀ e ∈ evs, e.isCtor = false) :
    let w2 := ((w.construct .duration (some [.jobs])).1.construct .isReady (some [.jobs])).1
    let w3 := evs.foldl FWorld.step w2
    ∃ od or_, w3.heap[w.heap.length]? = some od ∧ w3.heap[w.heap.length + 1]? = some or_ ∧
      observerMwkrScores od or_ = (List.range w.cfg.I.length).map fun j => score w.cfg w3.s .mwkr j := by
  intro w2 w3
  obtain ⟨hI2, hc2, _, m1, m2, ⟨od, a1, a2, a3⟩, ⟨or_, b1, b2, b3⟩⟩ := late_world w hI
  -- along the events the two observers stay in place and the subscriber list is only extended
  obtain ⟨hI3, hc3, hx, t, ht⟩ := run_events (c := w.cfg) hv hF
    (P := fun w' => KeepDR w2 w' ∧ ∃ t, w'.subs = w2.subs ++ t)
    (fun w' j p m _ h ⟨k, t, ht⟩ =>
      ⟨k.trans (dispatch_keepDR w' h.subs j p m), t, (dispatch_shell w' j p m).1.trans ht⟩)
    (fun w' _ h ⟨k, t, ht⟩ =>
      have ⟨t', ht'⟩ := (reset_keeps w').2.1
      ⟨k.trans (reset_keepDR w' h), t ++ t', by rw [ht', ht, List.append_assoc]⟩)
    evs w2 hc2 hI2 ⟨KeepDR.refl w2, [], (List.append_nil _).symm⟩ hev
  obtain ⟨od', p1, p2, p3⟩ := hx _ od a1 (Or.inl a2)
  obtain ⟨or', q1, q2, q3⟩ := hx _ or_ b1 (Or.inr b2)
  refine ⟨od', or', p1, q1, ?_⟩
  have hm1 : w.heap.length ∈ w3.subs := by rw [ht]; exact List.mem_append_left _ m1
  have hm2 : w.heap.length + 1 ∈ w3.subs := by rw [ht]; exact List.mem_append_left _ m2
  have v1 := hI3.val _ hm1 od' p1
  have v2 := hI3.val _ hm2 or' q1
  rw [hc3] at v1 v2
  exact observerMwkrScores_of_spec w.cfg w3.s od' or'
    (v1.durJobs (p2.trans a2) (by rw [p3, a3]; simp))
    (v2.ready (q2.trans b2) .jobs (by rw [q3, b3]; simp))

/-- … in particular in every reachable feature world: whatever observers were constructed on the fresh dispatcher and
whatever happened since (`Reached c w`), the scorer may create its two observers now, and after any further dispatch
requests and resets the scores it reads off them are the model's scores. -/
theorem C04_late_observers_reached (c : Cfg) (hv : Valid c.I) (hF : c.F = none ∨ PosDurI c.I) (w : FWorld)
    (hw : Reached c w) (evs : List FEv) (hev : ∀ e ∈ evs, e.isCtor = false) :
    let w2 := ((w.construct .duration (some [.jobs])).1.construct .isReady (some [.jobs])).1
    let w3 := evs.foldl FWorld.step w2
    ∃ od or_, w3.heap[w.heap.length]? = some od ∧ w3.heap[w.heap.length + 1]? = some or_ ∧
      observerMwkrScores od or_ = (List.range c.I.length).map fun j => score c w3.s .mwkr j := by
  obtain ⟨ctors, evs0, hct, hnd, hev0, rfl⟩ := hw.ex
  obtain ⟨hI, hc⟩ := finv_run c hv hF ctors evs0 hct hnd hev0
  have := C04_late_observers_stay (FWorld.run c (ctors ++ evs0)) (by rw [hc]; exact hv) (by rw [hc]; exact hF) hI evs hev
  rw [hc] at this
  exact this

end JS
