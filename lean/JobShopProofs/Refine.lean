import JobShopModel.Events
import JobShopProofs.Abstract.Inv
/-!
# Refinement: the concrete list-based dispatcher state vs. the abstract functional state

`Rel s a` relates a concrete `State` (what the Python objects hold) with an abstract `AState`:
tracking vectors agree pointwise (through `getD`) and the abstract schedule is a permutation of the
flattened per-machine lists.  `rel_dispatch`: an accepted concrete `dispatch` is exactly the abstract
step `dispA`.
-/
namespace JS

/-- validity of an instance: the only instances the properties speak about -/
def Valid (I : Instance) : Prop :=
  ∀ j p op, getOp I j p = some op → op.machines ≠ [] ∧ op.machines.Nodup ∧ 0 ≤ op.dur

/-- the executable check `validB` (printed by the driver for every instance of the correspondence run)
implies `Valid` -/
theorem valid_of_validB {I : Instance} (h : validB I = true) : Valid I := by
  intro j p op hop
  obtain ⟨job, hjob, hopm⟩ := mem_of_getOp hop
  have := List.all_eq_true.1 (List.all_eq_true.1 h job hjob) op hopm
  simp only [validOp, Bool.and_eq_true, Bool.not_eq_true', decide_eq_true_eq] at this
  exact ⟨fun he => by simp [he] at this, this.1.2, this.2⟩

structure WF (I : Instance) (s : State) : Prop where
  lenS : s.sched.length = numMachines I
  lenM : s.machNext.length = numMachines I
  lenI : s.jobIdx.length = I.length
  lenN : s.jobNext.length = I.length

theorem foldl_max_ge {α} (f : α → Nat) (l : List α) : ∀ (a : Nat), a ≤ l.foldl (fun b x => max b (f x)) a := by
  induction l with
  | nil => exact fun a => Nat.le_refl a
  | cons x t ih => exact fun a => Nat.le_trans (Nat.le_max_left a (f x)) (ih _)

theorem foldl_max_mem {α} (f : α → Nat) (l : List α) : ∀ (a : Nat) (x : α), x ∈ l →
    f x ≤ l.foldl (fun b x => max b (f x)) a := by
  induction l with
  | nil => exact fun _ _ h => nomatch h
  | cons y t ih =>
    intro a x h
    rcases List.mem_cons.1 h with rfl | h
    · exact Nat.le_trans (Nat.le_max_right a (f x)) (foldl_max_ge f t _)
    · exact ih _ x h

theorem machine_lt (I : Instance) (j p m : Nat) (op : Op) (hop : getOp I j p = some op) (hm : m ∈ op.machines) :
    m < numMachines I := by
  obtain ⟨job, hjob, hopm⟩ := mem_of_getOp hop
  have h1 : m + 1 ≤ opMax op := foldl_max_mem (fun m => m + 1) op.machines 0 m hm
  have h2 : opMax op ≤ jobMax job := foldl_max_mem opMax job 0 op hopm
  have h3 : jobMax job ≤ numMachines I := foldl_max_mem jobMax I 0 job hjob
  omega

theorem wf_init (I : Instance) : WF I (init I) := by constructor <;> simp [init]

theorem getD_set_eq {α} (l : List α) (i : Nat) (a d : α) (h : i < l.length) (k : Nat) :
    (l.set i a).getD k d = if k = i then a else l.getD k d := by
  simp only [List.getD_eq_getElem?_getD, List.getElem?_set]
  by_cases hk : k = i
  · subst hk; simp [h]
  · have : ¬ i = k := fun h => hk h.symm
    simp [hk, this]

theorem getD_modify_eq {α} (l : List α) (f : α → α) (i : Nat) (d : α) (h : i < l.length) (k : Nat) :
    (l.modify i f).getD k d = if k = i then f (l.getD i d) else l.getD k d := by
  simp only [List.getD_eq_getElem?_getD, List.getElem?_modify]
  by_cases hk : k = i
  · subst hk; simp [h]
  · have : ¬ i = k := fun h => hk h.symm
    simp [hk, this]

theorem flatten_modify_perm {α} : ∀ (l : List (List α)) (m : Nat) (a : α), m < l.length →
    (l.modify m (· ++ [a])).flatten.Perm (l.flatten ++ [a])
  | [], _, _, h => by simp at h
  | x :: t, 0, a, _ => by
    simp only [List.modify_zero_cons, List.flatten_cons]
    -- (x ++ [a]) ++ t.flatten ~ (x ++ t.flatten) ++ [a]
    rw [List.append_assoc, List.append_assoc]
    exact List.Perm.append_left x List.perm_append_comm
  | x :: t, m+1, a, h => by
    simp only [List.modify_succ_cons, List.flatten_cons, List.append_assoc]
    exact List.Perm.append_left x (flatten_modify_perm t m a (by simpa using h))

structure Rel (s : State) (a : AState) : Prop where
  idx : ∀ j, a.idx j = s.jobIdx.getD j 0
  mN : ∀ m, a.mN m = s.machNext.getD m 0
  jN : ∀ j, a.jN j = s.jobNext.getD j 0
  sched : a.sched.Perm s.sched.flatten

theorem rel_init (I : Instance) : Rel (init I) ainit := by
  constructor <;> intros <;> simp [init, ainit, List.getD_eq_getElem?_getD, List.getElem?_replicate]
  all_goals (split <;> rfl)

theorem rel_startTime {s : State} {a : AState} (h : Rel s a) (j m : Nat) : startTime s j m = startA a j m := by
  simp [startTime, startA, h.mN, h.jN]

/-- everything an accepted concrete dispatch tells us -/
structure DispSpec (I : Instance) (s s' : State) (j p m : Nat) (op : Op) : Prop where
  hop : getOp I j p = some op
  hidx : s.jobIdx.getD j 0 = p
  hm : m ∈ op.machines
  addok : addOk (s.sched.getD m []) ⟨j, p, m, startTime s j m, op.dur⟩ = true
  eq : s' = { sched := s.sched.modify m (· ++ [⟨j, p, m, startTime s j m, op.dur⟩]),
              machNext := s.machNext.set m (startTime s j m + op.dur),
              jobIdx := s.jobIdx.set j (p+1),
              jobNext := s.jobNext.set j (startTime s j m + op.dur),
              cache := {} }

theorem dispatch_ok {I : Instance} {s s' : State} {j p m : Nat} (hd : dispatch I s j p m = .ok s') :
    ∃ op, DispSpec I s s' j p m op := by
  unfold dispatch at hd
  cases hop : getOp I j p with
  | none => rw [hop] at hd; cases hd
  | some op =>
    rw [hop] at hd
    by_cases hidx : s.jobIdx.getD j 0 = p
    · by_cases hm : m ∈ op.machines
      · cases hadd : addOk (s.sched.getD m []) ⟨j, p, m, startTime s j m, op.dur⟩ with
        | false =>
          simp only [hidx, hm, hadd, ne_eq, not_true_eq_false, if_false, Bool.not_false, if_true] at hd
          cases hd
        | true =>
          simp only [hidx, hm, hadd, ne_eq, not_true_eq_false, if_false, Bool.not_true, Bool.false_eq_true] at hd
          exact ⟨op, hop, hidx, hm, hadd, (Except.ok.inj hd).symm⟩
      · simp only [hidx, hm, ne_eq, not_true_eq_false, not_false_eq_true, if_false, if_true] at hd
        cases hd
    · simp only [hidx, ne_eq, not_false_eq_true, if_true] at hd
      cases hd

theorem dispatchReq_ok {I : Instance} {s s' : State} {j p : Nat} {m : Option Int}
    (h : dispatchReq I s j p m = .ok s') :
    ∃ mm op, getOp I j p = some op ∧ resolveMachine op m = .ok mm ∧ dispatch I s j p mm = .ok s' := by
  unfold dispatchReq at h
  split at h
  · cases h
  · rename_i op hop
    split at h
    · cases h
    · split at h
      · cases h
      · rename_i mm hmm
        exact ⟨mm, op, hop, hmm, h⟩

theorem dispatchReq_eq_dispatch {I : Instance} {s : State} {j p mm : Nat} {m : Option Int} {op : Op}
    (hop : getOp I j p = some op) (hidx : s.jobIdx.getD j 0 = p) (hres : resolveMachine op m = .ok mm) :
    dispatchReq I s j p m = dispatch I s j p mm := by
  simp only [dispatchReq, hop, hidx, hres, ne_eq, not_true_eq_false, if_false]

theorem resolveMachine_natCast {op : Op} {m : Nat} (hm : m ∈ op.machines) :
    resolveMachine op (some (m : Int)) = .ok m := by
  simp only [resolveMachine, Int.toNat_natCast, hm, if_true, Int.not_lt.2 (Int.natCast_nonneg m), if_false]

theorem dispatchReq_spec {I : Instance} {s s' : State} {j p : Nat} {m : Option Int}
    (h : dispatchReq I s j p m = .ok s') :
    ∃ mm op, resolveMachine op m = .ok mm ∧ DispSpec I s s' j p mm op := by
  obtain ⟨mm, op, hop, hres, hd⟩ := dispatchReq_ok h
  obtain ⟨op', hsp⟩ := dispatch_ok hd
  obtain rfl : op = op' := Option.some.inj (hop.symm.trans hsp.hop)
  exact ⟨mm, op, hres, hsp⟩

theorem wf_dispSpec {I : Instance} {s s' : State} {j p m : Nat} {op : Op} (hwf : WF I s)
    (hd : DispSpec I s s' j p m op) : WF I s' := by
  rw [hd.eq]
  constructor <;> simp [hwf.lenS, hwf.lenM, hwf.lenI, hwf.lenN]

namespace DispSpec
variable {I : Instance} {s s' : State} {j p m : Nat} {op : Op}

theorem job_lt (hd : DispSpec I s s' j p m op) : j < I.length := getOp_job_lt I j p op hd.hop

theorem machine_lt (hd : DispSpec I s s' j p m op) : m < numMachines I := JS.machine_lt I j p m op hd.hop hd.hm

theorem cache (hd : DispSpec I s s' j p m op) : s'.cache = {} := by rw [hd.eq]

theorem sched_getD (hwf : WF I s) (hd : DispSpec I s s' j p m op) (k : Nat) :
    s'.sched.getD k [] =
      if k = m then s.sched.getD m [] ++ [⟨j, p, m, startTime s j m, op.dur⟩] else s.sched.getD k [] := by
  rw [hd.eq]; exact getD_modify_eq _ _ _ _ (hwf.lenS ▸ hd.machine_lt) k

theorem flatten_perm (hwf : WF I s) (hd : DispSpec I s s' j p m op) :
    s'.sched.flatten.Perm (s.sched.flatten ++ [⟨j, p, m, startTime s j m, op.dur⟩]) := by
  rw [hd.eq]; exact flatten_modify_perm _ _ _ (hwf.lenS ▸ hd.machine_lt)

theorem mem_flatten (hwf : WF I s) (hd : DispSpec I s s' j p m op) (x : SOp) :
    x ∈ s'.sched.flatten ↔ x ∈ s.sched.flatten ∨ x = ⟨j, p, m, startTime s j m, op.dur⟩ := by
  rw [(hd.flatten_perm hwf).mem_iff, List.mem_append, List.mem_singleton]

end DispSpec

theorem dispSpec_vectors {I : Instance} {s s' : State} {j p m : Nat} {op : Op} (hwf : WF I s)
    (hd : DispSpec I s s' j p m op) :
    (∀ k, s'.machNext.getD k 0 = if k = m then startTime s j m + op.dur else s.machNext.getD k 0) ∧
    (∀ k, s'.jobIdx.getD k 0 = if k = j then p + 1 else s.jobIdx.getD k 0) ∧
    (∀ k, s'.jobNext.getD k 0 = if k = j then startTime s j m + op.dur else s.jobNext.getD k 0) := by
  refine ⟨?_, ?_, ?_⟩ <;> intro k <;> rw [hd.eq]
  · exact getD_set_eq _ _ _ _ (hwf.lenM ▸ hd.machine_lt) k
  · exact getD_set_eq _ _ _ _ (hwf.lenI ▸ hd.job_lt) k
  · exact getD_set_eq _ _ _ _ (hwf.lenN ▸ hd.job_lt) k

theorem dispSpec_startTime {I : Instance} {s s' : State} {j p m : Nat} {op : Op} (hwf : WF I s)
    (hd : DispSpec I s s' j p m op) (hdur : 0 ≤ op.dur) (j' m' : Nat) :
    startTime s j' m' ≤ startTime s' j' m' ∧ (j' = j → startTime s j m + op.dur ≤ startTime s' j' m') := by
  obtain ⟨hmn, _, hjn⟩ := dispSpec_vectors hwf hd
  have hE := Int.le_add_of_nonneg_right (a := startTime s j m) hdur
  -- neither tracking vector goes down
  have hup : ∀ (x : Nat → Int) (i k : Nat), x i ≤ startTime s j m + op.dur →
      x k ≤ if k = i then startTime s j m + op.dur else x k := by
    intro x i k h
    split
    · rename_i e
      exact e ▸ h
    · exact Int.le_refl _
  have h1 : s.machNext.getD m' 0 ≤ s'.machNext.getD m' 0 :=
    hmn m' ▸ hup (s.machNext.getD · 0) m m' (Int.le_trans (Int.le_max_left _ _) hE)
  have h2 : s.jobNext.getD j' 0 ≤ s'.jobNext.getD j' 0 :=
    hjn j' ▸ hup (s.jobNext.getD · 0) j j' (Int.le_trans (Int.le_max_right _ _) hE)
  refine ⟨Int.max_le.2 ⟨Int.le_trans h1 (Int.le_max_left _ _), Int.le_trans h2 (Int.le_max_right _ _)⟩, ?_⟩
  rintro rfl
  exact Int.le_trans (Int.le_of_eq (by rw [hjn j', if_pos rfl])) (Int.le_max_right _ _)

theorem rel_dispatch {I : Instance} {s s' : State} {a : AState} {j p m : Nat} {op : Op}
    (hwf : WF I s) (hr : Rel s a) (hd : DispSpec I s s' j p m op) :
    WF I s' ∧ Rel s' (dispA a j p m op) := by
  have hst := rel_startTime hr j m
  obtain ⟨hmn, hji, hjn⟩ := dispSpec_vectors hwf hd
  refine ⟨?_, fun k => ?_, fun k => ?_, fun k => ?_, ?_⟩
  · rw [hd.eq]; constructor <;> simp [hwf.lenS, hwf.lenM, hwf.lenI, hwf.lenN]
  · rw [hji, ← hr.idx]; rfl
  · rw [hmn, ← hr.mN, hst]; rfl
  · rw [hjn, ← hr.jN, hst]; rfl
  · simp only [dispA, ← hst]
    exact (List.Perm.append_right _ hr.sched).trans (hd.flatten_perm hwf).symm

end JS
