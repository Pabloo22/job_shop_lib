import JobShopProofs.OwnRecord
import JobShopProofs.Properties.C02
import JobShopProofs.Properties.C13
import JobShopProofs.Properties.C20
/-!
# C10 / C20 on the whole feature world: the `HistoryObserver`

`C10_world_history`: in every reachable feature world (observers constructed on the fresh dispatcher, then any dispatch
requests and resets) a subscribed `HistoryObserver` holds exactly the entries accepted since the last reset, in dispatch
order: replaying its record (`replay` of `Properties/C02.lean`, the fold of the core `dispatch` that `C20_frame_k` uses for
the animation frames) on a fresh dispatcher rebuilds the current dispatcher state, and the replay of the first `k` recorded
entries has exactly these `k` entries in its schedule (start times included).

Route: `own_record_run` (`OwnRecord.lean`) with the per-observer property `HistOK`; a history observer starts empty, is emptied
by a reset, and its notification appends the new entry (`histOK_upd`).
-/
namespace JS

def triples (l : List SOp) : List (Nat × Nat × Nat) := l.map fun x => (x.job, x.pos, x.machine)

theorem triples_append (l1 l2 : List SOp) : triples (l1 ++ l2) = triples l1 ++ triples l2 := by
  simp [triples]

theorem triples_length (l : List SOp) : (triples l).length = l.length := by simp [triples]

theorem triples_take (l : List SOp) (k : Nat) : (triples l).take k = triples (l.take k) := by
  simp [triples, List.map_take]

namespace HistW

/-- the record `l` is faithful: the replay of its first `k` triples has exactly its first `k` entries in the schedule
(as a permutation: the schedule is kept per machine, so `flatten` is not in dispatch order) -/
def Faith (I : Instance) (l : List SOp) : Prop :=
  ∀ k, k ≤ l.length → (replay I (init I) ((triples l).take k)).sched.flatten.Perm (l.take k)

theorem faith_nil (I : Instance) : Faith I [] := by
  intro k _
  simp [triples, replay, FWReset.init_sched_flatten]

theorem replay_single {I : Instance} {s s' : State} {j p m : Nat} (h : dispatch I s j p m = .ok s') :
    replay I s [(j, p, m)] = s' := by
  simp [replay, h]

theorem faith_snoc {I : Instance} {l : List SOp} {x : SOp} {s' : State} (h : Faith I l)
    (hd : dispatch I (replay I (init I) (triples l)) x.job x.pos x.machine = .ok s')
    (hp : s'.sched.flatten.Perm ((replay I (init I) (triples l)).sched.flatten ++ [x])) : Faith I (l ++ [x]) := by
  intro k hk
  by_cases hle : k ≤ l.length
  · rw [triples_append, List.take_append_of_le_length (by rw [triples_length]; exact hle),
      List.take_append_of_le_length hle]
    exact h k hle
  · have hk' : k = l.length + 1 := by simp at hk; omega
    have e1 : (triples (l ++ [x])).take k = triples l ++ [(x.job, x.pos, x.machine)] := by
      rw [List.take_of_length_le (by rw [triples_length]; simp; omega), triples_append]; rfl
    have e2 : (l ++ [x]).take k = l ++ [x] := List.take_of_length_le (by simp; omega)
    rw [e1, e2, replay_append, replay_single hd]
    have h0 := h l.length (Nat.le_refl _)
    rw [List.take_of_length_le (by rw [triples_length]; exact Nat.le_refl _), List.take_length] at h0
    exact hp.trans (h0.append_right [x])

/-- what C10 says about a history observer, for the dispatcher state `s`: replaying the record on a fresh dispatcher gives
exactly `s`, and every prefix of the record is the schedule of the replay of that prefix -/
def HistOK (I : Instance) (s : State) (o : FObs) : Prop :=
  s = replay I (init I) (triples o.hist) ∧ Faith I o.hist

theorem histOK_upd {c : Cfg} (hv : Valid c.I) {s s' : State} {j p : Nat} {m : Option Int} {mm : Nat} {op : Op}
    (hi : Inv c s) (hdr : dispatchReq c.I s j p m = .ok s') (hdd : dispatch c.I s j p mm = .ok s')
    (hx : newEntry s j p mm op ∈ s'.sched.flatten) (hp : List FObs) (o : FObs) (h : HistOK c.I s o)
    (hk : o.kind = .history) : HistOK c.I s' (updObs c s' (newEntry s j p mm op) hp o) := by
  have e : updObs c s' (newEntry s j p mm op) hp o = { o with hist := o.hist ++ [newEntry s j p mm op] } := by
    simp only [updObs, hk]
  rw [e]
  obtain ⟨h1, h2⟩ := h
  obtain ⟨_, _, _, _, hperm, _⟩ := accepted_entry hv hi hdr hx rfl rfl
  have hdd' : dispatch c.I (replay c.I (init c.I) (triples o.hist)) (newEntry s j p mm op).job
      (newEntry s j p mm op).pos (newEntry s j p mm op).machine = .ok s' := by
    rw [← h1]; exact hdd
  refine ⟨?_, faith_snoc h2 hdd' (by rw [← h1]; exact hperm)⟩
  show s' = replay c.I (init c.I) (triples (o.hist ++ [newEntry s j p mm op]))
  rw [triples_append, replay_append]
  exact (replay_single hdd').symm

end HistW

/-- replaying the record of a history observer rebuilds the whole dispatcher state (schedule and bookkeeping), prefix by prefix -/
theorem C10_world_history_state (c : Cfg) (hv : Valid c.I) (hF : c.F = none ∨ PosDurI c.I) (w : FWorld) (hw : Reached c w)
    (id : Nat) (o : FObs) (ho : w.heap[id]? = some o) (hk : o.kind = .history) :
    w.s = replay c.I (init c.I) (triples o.hist) ∧ HistW.Faith c.I o.hist := by
  have fresh : ∀ o : FObs, o.hist = [] → HistW.HistOK c.I (init c.I) o := fun o h => by
    unfold HistW.HistOK; rw [h]; exact ⟨rfl, HistW.faith_nil c.I⟩
  refine own_record_run (T := (· = .history)) (OK := HistW.HistOK c.I) hv hF (fun k h => by rw [h]; rfl) ?_ ?_
    (fun hi hdr hdd hx hp o h hk => HistW.histOK_upd hv hi hdr hdd hx hp o h hk) hw id o ho hk
  · intro w o _ hn hk
    cases hn <;> first | exact fresh _ rfl | cases hk
  · intro w o _ hk
    apply fresh
    simp only [resetOwn, show o.kind = .history from hk]

/-- **C10 / C20 on the whole feature world.**  In every reachable feature world a subscribed `HistoryObserver` holds every
entry of the current schedule exactly once; replaying its record on a fresh dispatcher rebuilds the current schedule, and the
replay of the first `k` recorded entries schedules exactly these `k` entries. -/
theorem C10_world_history (c : Cfg) (hv : Valid c.I) (hF : c.F = none ∨ PosDurI c.I) (w : FWorld) (hw : Reached c w)
    (id : Nat) (hid : id ∈ w.subs) (o : FObs) (ho : w.heap[id]? = some o) (hk : o.kind = .history) :
    -- every entry of the schedule is recorded exactly once, the record is duplicate free …
    o.hist.Perm w.s.sched.flatten ∧
    -- … and replaying the record on a fresh dispatcher rebuilds the current schedule, prefix by prefix
    (replay c.I (init c.I) (triples o.hist)).sched = w.s.sched ∧
    ∀ k, k ≤ o.hist.length →
      (replay c.I (init c.I) ((triples o.hist).take k)).sched.flatten.Perm (o.hist.take k) := by
  have _ := hid
  obtain ⟨h1, h2⟩ := C10_world_history_state c hv hF w hw id o ho hk
  refine ⟨?_, by rw [← h1], h2⟩
  have h0 := h2 o.hist.length (Nat.le_refl _)
  rw [List.take_of_length_le (by rw [triples_length]; exact Nat.le_refl _), List.take_length, ← h1] at h0
  exact h0.symm

/-! non-vacuity: a reachable world with a history observer between other observers (helpers created lazily; the second
history observer is refused), a reset in the middle of the history, rejected requests -/
set_option maxRecDepth 100000 in
example :
    let w := FWorld.run { I := c11Instance }
      ([.construct .isCompleted none, .construct .history none, .construct .idleReward none,
        .construct .remainingOps none, .construct .history none] ++
       [.disp 0 0 (some 1), .disp 1 0 none, .reset, .disp 1 0 (some 1), .disp 1 1 none, .disp 0 0 (some 0), .disp 1 2 none,
        .disp 0 1 none, .disp 0 1 none])
    3 ∈ w.subs ∧
    (w.heap[3]?.map fun o => (o.kind, o.hist)) = some (.history,
      [⟨1, 0, 1, 0, 4⟩, ⟨1, 1, 0, 4, 1⟩, ⟨0, 0, 0, 5, 3⟩, ⟨1, 2, 1, 5, 0⟩, ⟨0, 1, 1, 8, 2⟩]) ∧
    w.s.sched = [[⟨1, 1, 0, 4, 1⟩, ⟨0, 0, 0, 5, 3⟩], [⟨1, 0, 1, 0, 4⟩, ⟨1, 2, 1, 5, 0⟩, ⟨0, 1, 1, 8, 2⟩]] := by decide +kernel

end JS
