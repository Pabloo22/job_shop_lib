import JobShopProofs.Properties.C19
import JobShopProofs.GenRefusal
/-!
# Passes of a generator compose (C19)

Pulling `n + m` instances in one pass (`list(generator)` with `iteration_limit = n + m`) is the same as a pass of `n`
followed by a pass of `m` on the state the first pass left: same instances, same names, same final state, and the same
exception (with the same generator state) when a `generate()` raises.  One `generate()` is a pass of one.
-/
namespace JS

/-- a pass of n + m instances = a pass of n, then a pass of m from where the first one ended -/
theorem C19_passes_concat (p : GenParams) (n m : Nat) (g : GenState) :
    iterate p (n + m) g =
      match iterate p n g with
      | .error e => .error e
      | .ok (l1, g1) =>
        match iterate p m g1 with
        | .error e => .error e
        | .ok (l2, g2) => .ok (l1 ++ l2, g2) := by
  induction n generalizing g with
  | zero =>
    simp only [Nat.zero_add, iterate, List.nil_append]
    cases iterate p m g <;> rfl
  | succ n ih =>
    rw [show n + 1 + m = (n + m) + 1 by omega]
    simp only [iterate]
    cases hn : g.next p with
    | error e => rfl
    | ok r =>
      obtain ⟨I, name, g1⟩ := r
      simp only [ih g1]
      cases h1 : iterate p n g1 with
      | error e => rfl
      | ok r1 =>
        obtain ⟨l1, g2⟩ := r1
        simp only []
        cases iterate p m g2 <;> rfl

/-- one `generate()` is a pass of one -/
theorem C19_next_is_pass_of_one (p : GenParams) (g : GenState) :
    iterate p 1 g = match g.next p with | .error e => .error e | .ok (I, name, g1) => .ok ([(I, name)], g1) := by
  simp only [iterate]
  cases g.next p <;> rfl

/-- hence: `generate()`, then two passes of k - the instances (and names) are those of ONE pass of 1 + k + k on a twin
(same draws, same counter) -/
theorem C19_generate_then_two_passes (p : GenParams) (k : Nat) (g : GenState) (I : Instance) (nm : Nat) (g1 : GenState)
    (l1 : List (Instance × Nat)) (g2 : GenState) (l2 : List (Instance × Nat)) (g3 : GenState)
    (h0 : g.next p = .ok (I, nm, g1)) (h1 : iterate p k g1 = .ok (l1, g2)) (h2 : iterate p k g2 = .ok (l2, g3)) :
    iterate p (1 + k + k) g = .ok ((I, nm) :: l1 ++ l2, g3) := by
  rw [C19_passes_concat p (1 + k) k g, C19_passes_concat p 1 k g, C19_next_is_pass_of_one p g, h0]
  simp only [h1, h2, List.cons_append, List.nil_append]

/-! non-vacuity: `generate()`, a pass of one, another pass of one succeed on these draws, and give the three instances,
names 1, 2, 3 and the final state of one pass of three -/
example :
    let p : GenParams := { jobsRange := (1, 2), machinesRange := (1, 2), durRange := (1, 9) }
    let g : GenState := { draws := [1, 0, 4, 0, 2, 1, 6, 0, 3, 1, 0, 9, 9, 2, 5, 1, 7, 3, 0, 8] }
    let g1 : GenState := { draws := [6, 0, 3, 1, 0, 9, 9, 2, 5, 1, 7, 3, 0, 8], counter := 1 }
    let g2 : GenState := { draws := [0, 9, 9, 2, 5, 1, 7, 3, 0, 8], counter := 2 }
    let g3 : GenState := { draws := [7, 3, 0, 8], counter := 3 }
    let I1 : Instance := [[{ machines := [0], dur := 5 }], [{ machines := [0], dur := 3 }]]
    let I2 : Instance := [[{ machines := [0], dur := 4 }]]
    let I3 : Instance := [[{ machines := [0], dur := 1 }, { machines := [1], dur := 6 }]]
    g.next p = .ok (I1, 1, g1) ∧ iterate p 1 g1 = .ok ([(I2, 2)], g2) ∧ iterate p 1 g2 = .ok ([(I3, 3)], g3) ∧
      iterate p (1 + 1 + 1) g = .ok ([(I1, 1), (I2, 2), (I3, 3)], g3) := by
  refine ⟨by rfl, by rfl, by rfl, by rfl⟩

/-! a refusal in the second pass is the refusal of the long pass, with the same generator state -/
example :
    let p : GenParams := { jobsRange := (1, 3), machinesRange := (2, 3), durRange := (1, 9), allowLess := false }
    let g : GenState := { draws := [1, 0, 4, 0, 2, 1, 6, 0, 3, 1, 0, 9, 9] }
    (∃ l g1, iterate p 1 g = .ok (l, g1) ∧ iterate p 1 g1 = .error (.emptyRange, { draws := [9, 9], counter := 1 })) ∧
      iterate p (1 + 1) g = .error (.emptyRange, { draws := [9, 9], counter := 1 }) := by
  refine ⟨⟨_, _, by rfl, by rfl⟩, by rfl⟩

end JS
