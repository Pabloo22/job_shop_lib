import JobShopProofs.FeatEst
/-!
# Semantics of `estSpec`: the "earliest possible start" really is one

`estSpec I s r` (defined by the recursion `estChain`) is a lower bound on the start time that the operation
`r`, unscheduled in `s`, gets in ANY continuation of the current history (`C11_est_is_earliest`), and for the next
operation of each job it is attained by dispatching it now on its earliest free eligible machine
(`C11_est_next_attained`).
-/
namespace JS

/-- run a list of core dispatch requests `(j, p, m)`, ignoring the rejected ones -/
def runReqs (I : Instance) (s : State) (h : List (Nat × Nat × Nat)) : State :=
  h.foldl (fun s r => match dispatch I s r.1 r.2.1 r.2.2 with | .ok s' => s' | .error _ => s) s

/-- the time the earliest eligible machine of `op` is free, as of state `s` -/
def minFree (s : State) (op : Op) : Int := ((op.machines.map fun m => s.machNext.getD m 0).min?).getD 0

theorem minFree_le (s : State) (op : Op) (m : Nat) (hm : m ∈ op.machines) :
    minFree s op ≤ s.machNext.getD m 0 := by
  have hne : (op.machines.map fun m => s.machNext.getD m 0) ≠ [] := by
    intro h; rw [List.map_eq_nil_iff] at h; rw [h] at hm; cases hm
  obtain ⟨v, hv, _, hle⟩ := min?_spec _ hne
  unfold minFree
  rw [hv]
  exact hle _ (List.mem_map.2 ⟨m, hm, rfl⟩)

theorem minFree_attained (s : State) (op : Op) (hne : op.machines ≠ []) :
    ∃ m ∈ op.machines, s.machNext.getD m 0 = minFree s op := by
  have hne' : (op.machines.map fun m => s.machNext.getD m 0) ≠ [] := by
    intro h; rw [List.map_eq_nil_iff] at h; exact hne h
  obtain ⟨v, hv, hmem, _⟩ := min?_spec _ hne'
  obtain ⟨m, hm, hmv⟩ := List.mem_map.1 hmem
  refine ⟨m, hm, ?_⟩
  unfold minFree
  rw [hv, hmv]; rfl

theorem estChain_getD_zero (s : State) (ops : List Op) (acc : Int) (a : Op) (h : ops[0]? = some a) :
    (estChain s ops acc).getD 0 0 = max acc (minFree s a) := by
  cases ops with
  | nil => simp at h
  | cons op rest =>
    simp only [List.getElem?_cons_zero, Option.some.injEq] at h
    subst h
    rfl

theorem estChain_getD_succ (s : State) : ∀ (ops : List Op) (acc : Int) (k : Nat) (a b : Op),
    ops[k]? = some a → ops[k+1]? = some b →
    (estChain s ops acc).getD (k+1) 0 = max ((estChain s ops acc).getD k 0 + a.dur) (minFree s b)
  | [], _, _, _, _, h, _ => by simp at h
  | op :: rest, acc, 0, a, b, ha, hb => by
    simp only [List.getElem?_cons_zero, Option.some.injEq] at ha
    subst ha
    simp only [Nat.zero_add, List.getElem?_cons_succ] at hb
    have h0 := estChain_getD_zero s rest (max acc (minFree s op) + op.dur) b hb
    simp only [estChain, List.getD_cons_succ, List.getD_cons_zero]
    exact h0
  | op :: rest, acc, k+1, a, b, ha, hb => by
    simp only [List.getElem?_cons_succ] at ha hb
    have ih := estChain_getD_succ s rest (max acc (minFree s op) + op.dur) k a b ha hb
    simp only [estChain, List.getD_cons_succ]
    exact ih

theorem getOp_eq_getD (I : Instance) (j p : Nat) : getOp I j p = (I.getD j [])[p]? := by
  unfold getOp
  simp only [List.getD_eq_getElem?_getD]
  cases I[j]? <;> simp

theorem estSpec_next (I : Instance) (s : State) (j : Nat) (op : Op)
    (hop : getOp I j (s.jobIdx.getD j 0) = some op) :
    estSpec I s (j, s.jobIdx.getD j 0) = max (s.jobNext.getD j 0) (minFree s op) := by
  unfold estSpec
  simp only [Nat.sub_self]
  apply estChain_getD_zero
  rw [List.getElem?_drop, Nat.add_zero, ← getOp_eq_getD]
  exact hop

theorem estSpec_succ (I : Instance) (s : State) (j p : Nat) (a b : Op) (hp : s.jobIdx.getD j 0 ≤ p)
    (ha : getOp I j p = some a) (hb : getOp I j (p+1) = some b) :
    estSpec I s (j, p+1) = max (estSpec I s (j, p) + a.dur) (minFree s b) := by
  unfold estSpec
  simp only
  have e : p + 1 - s.jobIdx.getD j 0 = (p - s.jobIdx.getD j 0) + 1 := by omega
  rw [e]
  apply estChain_getD_succ
  · rw [List.getElem?_drop, ← getOp_eq_getD]
    have : s.jobIdx.getD j 0 + (p - s.jobIdx.getD j 0) = p := by omega
    rw [this]; exact ha
  · rw [List.getElem?_drop, ← getOp_eq_getD]
    have : s.jobIdx.getD j 0 + (p - s.jobIdx.getD j 0 + 1) = p + 1 := by omega
    rw [this]; exact hb

/-- what every state `t` reachable from `s` satisfies, relative to `s` -/
structure Fut (I : Instance) (s t : State) : Prop where
  cinv : CInv I t
  mN : ∀ m, s.machNext.getD m 0 ≤ t.machNext.getD m 0
  jN : ∀ j, s.jobNext.getD j 0 ≤ t.jobNext.getD j 0
  idx : ∀ j, s.jobIdx.getD j 0 ≤ t.jobIdx.getD j 0
  lb : ∀ x ∈ t.sched.flatten, s.jobIdx.getD x.job 0 ≤ x.pos → estSpec I s (x.job, x.pos) ≤ x.start
  jEnd : ∀ j p a, getOp I j p = some a → s.jobIdx.getD j 0 ≤ p → t.jobIdx.getD j 0 = p + 1 →
      estSpec I s (j, p) + a.dur ≤ t.jobNext.getD j 0

theorem fut_refl {I : Instance} {s : State} (hc : CInv I s) : Fut I s s := by
  refine ⟨hc, fun _ => Int.le_refl _, fun _ => Int.le_refl _, fun _ => Nat.le_refl _, ?_, ?_⟩
  · intro x hx hle
    obtain ⟨a, hr, ha, _⟩ := hc.abs
    have := ha.sched_lt x (hr.sched.mem_iff.2 hx)
    rw [hr.idx] at this
    omega
  · intro j p a _ h1 h2; omega

theorem fut_step {I : Instance} (hv : Valid I) {s t t' : State} {j p m : Nat} {op : Op}
    (hf : Fut I s t) (hd : DispSpec I t t' j p m op) : Fut I s t' := by
  have hdur : 0 ≤ op.dur := (hv j p op hd.hop).2.2
  have hwf := hf.cinv.wf
  obtain ⟨hM, hI, hN⟩ := dispSpec_vectors hwf hd
  have hsm : t.machNext.getD m 0 ≤ startTime t j m := Int.le_max_left _ _
  have hsj : t.jobNext.getD j 0 ≤ startTime t j m := Int.le_max_right _ _
  have hend : startTime t j m ≤ startTime t j m + op.dur := Int.le_add_of_nonneg_right hdur
  have hidx_le : s.jobIdx.getD j 0 ≤ p := hd.hidx ▸ hf.idx j
  -- the start of the dispatched operation is at least its `estSpec`
  have hstart : estSpec I s (j, p) ≤ startTime t j m := by
    have hmf : minFree s op ≤ startTime t j m :=
      Int.le_trans (minFree_le s op m hd.hm) (Int.le_trans (hf.mN m) hsm)
    rcases Nat.eq_or_lt_of_le hidx_le with hp | hp
    · subst hp
      rw [estSpec_next I s j op hd.hop]
      exact Int.max_le.2 ⟨Int.le_trans (hf.jN j) hsj, hmf⟩
    · obtain ⟨q, rfl⟩ := Nat.exists_eq_add_one_of_ne_zero (Nat.ne_zero_of_lt hp)
      obtain ⟨a, ha⟩ := getOp_pred I j q op hd.hop
      rw [estSpec_succ I s j q a op (Nat.le_of_lt_succ hp) ha hd.hop]
      exact Int.max_le.2 ⟨Int.le_trans (hf.jEnd j q a ha (Nat.le_of_lt_succ hp) hd.hidx) hsj, hmf⟩
  refine ⟨cinv_dispatch hdur hf.cinv hd, fun k => ?_, fun k => ?_, fun k => ?_, fun x hx hle => ?_,
    fun k q a ha hle hk => ?_⟩
  · rw [hM k]
    split
    · next hk => subst hk; exact Int.le_trans (hf.mN k) (Int.le_trans hsm hend)
    · exact hf.mN k
  · rw [hN k]
    split
    · next hk => subst hk; exact Int.le_trans (hf.jN k) (Int.le_trans hsj hend)
    · exact hf.jN k
  · rw [hI k]
    split
    · next hk => subst hk; exact Nat.le_succ_of_le hidx_le
    · exact hf.idx k
  · have hperm := flatten_modify_perm t.sched m (⟨j, p, m, startTime t j m, op.dur⟩ : SOp)
      (by rw [hwf.lenS]; exact machine_lt I j p m op hd.hop hd.hm)
    rw [hd.eq] at hx
    rw [hperm.mem_iff, List.mem_append, List.mem_singleton] at hx
    rcases hx with hx | rfl
    · exact hf.lb x hx hle
    · exact hstart
  · rw [hN k]
    rw [hI k] at hk
    split at hk
    · next hkj =>
      subst hkj
      obtain rfl : p = q := Nat.succ.inj hk
      rw [hd.hop] at ha
      cases ha
      rw [if_pos rfl]
      exact Int.add_le_add_right hstart _
    · next hkj =>
      rw [if_neg hkj]
      exact hf.jEnd k q a ha hle hk

theorem fut_runReqs {I : Instance} (hv : Valid I) {s : State} (h : List (Nat × Nat × Nat)) :
    ∀ {t : State}, Fut I s t → Fut I s (runReqs I t h) := by
  induction h with
  | nil => intro t hf; exact hf
  | cons r rest ih =>
    intro t hf
    unfold runReqs
    simp only [List.foldl_cons]
    cases hd : dispatch I t r.1 r.2.1 r.2.2 with
    | error e => exact ih hf
    | ok t' =>
      obtain ⟨op, hspec⟩ := dispatch_ok hd
      exact ih (fut_step hv hf hspec)

theorem vectors_mono {I : Instance} (hv : Valid I) {s : State} (hc : CInv I s) (h : List (Nat × Nat × Nat)) :
    (∀ m, s.machNext.getD m 0 ≤ (runReqs I s h).machNext.getD m 0) ∧
    (∀ j, s.jobNext.getD j 0 ≤ (runReqs I s h).jobNext.getD j 0) ∧ CInv I (runReqs I s h) :=
  have hf := fut_runReqs hv h (fut_refl hc)
  ⟨hf.mN, hf.jN, hf.cinv⟩

/-- **C11 (earliest start is a lower bound).** Whatever is dispatched from a reachable state on, an operation that is
unscheduled now never starts before `estSpec`. -/
theorem C11_est_is_earliest {I : Instance} (hv : Valid I) {s : State} (hc : CInv I s) (h : List (Nat × Nat × Nat))
    (r : OpRef) (hr : r ∈ unscheduledPure I s) (x : SOp) (hx : x ∈ (runReqs I s h).sched.flatten)
    (hxr : x.job = r.1 ∧ x.pos = r.2) : estSpec I s r ≤ x.start := by
  have hf := fut_runReqs hv h (fut_refl hc)
  have hle := (mem_unsched_iff.1 hr).2.1
  have := hf.lb x hx (by rw [hxr.1, hxr.2]; exact hle)
  rw [hxr.1, hxr.2] at this
  exact this

/-- **C11 (… and attained for the next operation of every job).** -/
theorem C11_est_next_attained {I : Instance} (hv : Valid I) {s : State} (hc : CInv I s) (j : Nat) (op : Op)
    (hop : getOp I j (s.jobIdx.getD j 0) = some op) :
    ∃ m ∈ op.machines, ∃ s', dispatch I s j (s.jobIdx.getD j 0) m = .ok s' ∧
      startTime s j m = estSpec I s (j, s.jobIdx.getD j 0) := by
  obtain ⟨m, hm, hmin⟩ := minFree_attained s op (hv _ _ op hop).1
  obtain ⟨s', hs'⟩ := dispatch_accepts hc hop rfl hm
  refine ⟨m, hm, s', hs', ?_⟩
  rw [estSpec_next I s j op hop, ← hmin]
  exact Int.max_comm _ _

end JS
