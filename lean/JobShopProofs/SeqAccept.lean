import JobShopProofs.SeqRebuild
/-!
# C14 — job sequences are accepted exactly when they admit a schedule

The loop of `from_job_sequences` only ever calls the core `dispatch` with a machine of the operation; such a call is the
request `Ev.disp j p (some m)` (`dispatchReq_of_dispatch`), so "is the state after some history" is an invariant of the
loop (`fromJobSequences_induct`).  With `C14_seq_rebuild` and `C14_seq_converse` this gives the equivalence.
-/
namespace JS

/-- **C14 (job sequences: the result is dispatcher-built), full state.**  Whatever the instance, the fuel and the input,
a returned schedule is — in every field of the dispatcher state, the memo table included — the state after a history
of dispatch requests on the fresh dispatcher, and it is complete. -/
theorem C14_seq_result_is_history_state (c : Cfg) (fuel : Nat) (seqs : List (List Nat)) (s' : State)
    (h : fromJobSequences c.I fuel seqs (init c.I) = .ok s') :
    ∃ evs : List Ev, run c evs = s' ∧ isComplete c.I (run c evs) = true := by
  obtain ⟨hc, _, evs, he⟩ := (fromJobSequences_induct (P := fun _ t => ∃ evs, run c evs = t) (E := True)
    (fun _ _ _ _ _ _ ⟨_, he⟩ _ _ _ => ⟨fun _ ht' => ⟨_, run_snoc_dispatch (he ▸ ht')⟩, fun _ _ => trivial⟩)
    fuel seqs (init c.I) ⟨[], rfl⟩).1 s' h
  exact ⟨evs, he, by rw [he]; exact hc⟩

/-- an accepted result is dispatcher-built: it is the state after some history of dispatch requests on the fresh
dispatcher -/
theorem C14_seq_result_is_history (c : Cfg) (_hv : Valid c.I) (fuel : Nat) (seqs : List (List Nat)) (s' : State)
    (h : fromJobSequences c.I fuel seqs (init c.I) = .ok s') :
    ∃ evs : List Ev, (run c evs).sched = s'.sched ∧ isComplete c.I (run c evs) = true := by
  obtain ⟨evs, he, hc⟩ := C14_seq_result_is_history_state c fuel seqs s' h
  exact ⟨evs, by rw [he], hc⟩

/-- `←` needs no side condition on the input: the job sequences of a dispatcher-built complete schedule are accepted -/
theorem C14_seq_accept_of_history (c : Cfg) (hv : Valid c.I) (hn : NonFlexH c.I) (seqs : List (List Nat))
    (h : ∃ evs : List Ev, isComplete c.I (run c evs) = true ∧ jobSequences (run c evs) = seqs) :
    ∃ s', fromJobSequences c.I (numOps c.I + 1) seqs (init c.I) = .ok s' := by
  obtain ⟨evs, hc, hs⟩ := h
  obtain ⟨s', h, _⟩ := C14_seq_rebuild c hv hn evs hc
  rw [hs] at h
  exact ⟨s', h⟩

/-- the equivalence under the weaker side condition "no more ids than operations" (any fuel that suffices, i.e.
`num_operations + 1`); the side conditions are used for `→` only -/
theorem C14_seq_accept_iff_le (c : Cfg) (hv : Valid c.I) (hn : NonFlexH c.I) (seqs : List (List Nat))
    (hrows : seqs.length = numMachines c.I) (htot : (seqs.map List.length).sum ≤ numOps c.I) :
    (∃ s', fromJobSequences c.I (numOps c.I + 1) seqs (init c.I) = .ok s') ↔
    (∃ evs : List Ev, isComplete c.I (run c evs) = true ∧ jobSequences (run c evs) = seqs) := by
  constructor
  · rintro ⟨s', h⟩
    obtain ⟨evs, he, hc⟩ := C14_seq_result_is_history_state c _ seqs s' h
    refine ⟨evs, hc, ?_⟩
    rw [he]
    exact (C14_seq_converse c.I _ seqs s' h).2 hrows htot
  · exact C14_seq_accept_of_history c hv hn seqs

/-- **accepted ⇔ admits a schedule**: per-machine job sequences (one row per machine, as many ids as the instance has
operations) of a non-flexible instance are accepted exactly when some dispatcher-built complete schedule has them as its
per-machine job sequences; otherwise (`C14_seq_outcomes`) the result is the validation error or an index error for ids that name no remaining
operation — never a hang, never a dispatch failure -/
theorem C14_seq_accept_iff (c : Cfg) (hv : Valid c.I) (hn : NonFlexH c.I) (seqs : List (List Nat))
    (hrows : seqs.length = numMachines c.I) (htot : (seqs.map List.length).sum = numOps c.I) :
    (∃ s', fromJobSequences c.I (numOps c.I + 1) seqs (init c.I) = .ok s') ↔
    (∃ evs : List Ev, isComplete c.I (run c evs) = true ∧ jobSequences (run c evs) = seqs) :=
  C14_seq_accept_iff_le c hv hn seqs hrows (by omega)

theorem C14_seq_outcomes (c : Cfg) (hv : Valid c.I) (seqs : List (List Nat)) :
    (∃ s', fromJobSequences c.I (numOps c.I + 1) seqs (init c.I) = .ok s') ∨
    fromJobSequences c.I (numOps c.I + 1) seqs (init c.I) = .validationError ∨
    fromJobSequences c.I (numOps c.I + 1) seqs (init c.I) = .indexError := by
  have h1 := (C14_seq_result_reachable hv (numOps c.I + 1) seqs (init c.I) (cinv_init c.I)).2
  have h2 := C14_seq_terminates c.I hv seqs
  cases hr : fromJobSequences c.I (numOps c.I + 1) seqs (init c.I) with
  | ok s => exact Or.inl ⟨s, rfl⟩
  | validationError => exact Or.inr (Or.inl rfl)
  | indexError => exact Or.inr (Or.inr rfl)
  | dispatchError => exact absurd hr h1
  | fuel => exact absurd hr h2

/-! non-vacuity and sharpness of the side conditions -/

/-- `from_job_sequences` returned a schedule -/
def SeqResult.isOk : SeqResult → Bool
  | .ok _ => true
  | _ => false

theorem SeqResult.exists_of_isOk {r : SeqResult} (h : r.isOk = true) : ∃ s', r = .ok s' := by
  cases r <;> first | exact ⟨_, rfl⟩ | cases h

/-- all three outcomes occur (cyclic order → validation error; unknown job id → index error) -/
example : ∃ s', fromJobSequences cyclicInstance 5 [[0, 1], [0, 1]] (init cyclicInstance) = .ok s' :=
  SeqResult.exists_of_isOk (by decide +kernel)
example : fromJobSequences cyclicInstance 5 [[1, 0], [0, 1]] (init cyclicInstance) = .validationError := by decide +kernel
example : fromJobSequences cyclicInstance 5 [[7, 0], [0, 1]] (init cyclicInstance) = .indexError := by decide +kernel

def oneOp : Cfg := { I := [[⟨[0], 1⟩]] }

/-- without the bound on the number of ids `→` fails: the input `[[0, 0]]` is accepted (the trailing id is ignored),
but no complete schedule of the one-operation instance has these job sequences -/
example : (∃ s', fromJobSequences oneOp.I (numOps oneOp.I + 1) [[0, 0]] (init oneOp.I) = .ok s') ∧
    ¬ ∃ evs : List Ev, isComplete oneOp.I (run oneOp evs) = true ∧ jobSequences (run oneOp evs) = [[0, 0]] := by
  refine ⟨SeqResult.exists_of_isOk (by decide +kernel), ?_⟩
  rintro ⟨evs, hc, hs⟩
  have h1 := numScheduled_jobSequences (run oneOp evs)
  rw [hs] at h1
  simp only [isComplete, beq_iff_eq] at hc
  rw [hc] at h1
  revert h1; decide +kernel

/-- without "one row per machine" `→` fails as well: an extra empty row is accepted and ignored -/
example : (∃ s', fromJobSequences oneOp.I (numOps oneOp.I + 1) [[0], []] (init oneOp.I) = .ok s') ∧
    ¬ ∃ evs : List Ev, isComplete oneOp.I (run oneOp evs) = true ∧ jobSequences (run oneOp evs) = [[0], []] := by
  refine ⟨SeqResult.exists_of_isOk (by decide +kernel), ?_⟩
  rintro ⟨evs, _, hs⟩
  have hv : Valid oneOp.I := valid_of_validB (by decide +kernel)
  have h1 := (inv_run hv evs).cinv.wf.lenS
  have h2 : (jobSequences (run oneOp evs)).length = (run oneOp evs).sched.length := by simp [jobSequences]
  rw [hs, h1] at h2
  revert h2; decide +kernel

end JS
